import GorumsV.Model.ReplyLoop
import GorumsV.Lemmas.Basic
/-!
  The *declarative* reading of an arrival history: its errors, its reply set, its prefixes and the reply sets
  shown to the quorum function.  Each is characterised by what one more arrival at the right end adds (`errsOf_append`,
  `replySet_append_*`, `prefixes_concat`, `replyLog_concat`) — the way the loop meets a history — so proofs about
  histories go by induction from the right.  Also: map insertion, and what the exhaustion branch reports.
-/
namespace GorumsV.ReplyLoop
variable {M E R : Type}

theorem RepMap.mem_insert {m : RepMap M} {k : NodeId} {v : M} {p : NodeId × M} :
    p ∈ m.insert k v ↔ p = (k, v) ∨ (p ∈ m ∧ p.1 ≠ k) := by
  simp [RepMap.insert, List.mem_filter]

theorem RepMap.length_insert_le (m : RepMap M) (k : NodeId) (v : M) :
    (m.insert k v).length ≤ m.length + 1 := by
  simp only [RepMap.insert, List.length_cons]
  exact Nat.succ_le_succ (List.length_filter_le _ _)

theorem RepMap.keys_nodup_insert {m : RepMap M} (h : (m.map (·.1)).Nodup) (k : NodeId) (v : M) :
    ((m.insert k v).map (·.1)).Nodup := by
  simp only [RepMap.insert, List.map_cons, List.nodup_cons]
  constructor
  · simp [List.mem_map, List.mem_filter]
  · exact (List.Sublist.map _ List.filter_sublist).nodup h

/-- inserting a key that is not bound yet is a plain `cons` -/
theorem RepMap.insert_of_not_mem {m : RepMap M} {k : NodeId} (h : ∀ p ∈ m, p.1 ≠ k) (v : M) :
    m.insert k v = (k, v) :: m := by
  simp only [RepMap.insert, List.cons.injEq, true_and]
  apply List.filter_eq_self.mpr
  intro p hp
  simpa using h p hp

/-- accumulate replies of `as` on top of `acc` -/
def addReplies (acc : RepMap M) : List (Arrival M E) → RepMap M
  | [] => acc
  | .reply n m :: as => addReplies (acc.insert n m) as
  | _ :: as => addReplies acc as

/-- the reply set after a history: a fold of map insertions over the whole history -/
def replySet (as : List (Arrival M E)) : RepMap M := addReplies [] as

/-- the error list after a history, in arrival order -/
def errsOf : List (Arrival M E) → List (NodeId × E)
  | [] => []
  | .error n c :: as => (n, c) :: errsOf as
  | _ :: as => errsOf as

@[simp] theorem errsOf_append (xs ys : List (Arrival M E)) : errsOf (xs ++ ys) = errsOf xs ++ errsOf ys := by
  induction xs with
  | nil => rfl
  | cons a xs ih => cases a <;> simp [errsOf, ih]

@[simp] theorem addReplies_append (acc : RepMap M) (xs ys : List (Arrival M E)) :
    addReplies acc (xs ++ ys) = addReplies (addReplies acc xs) ys := by
  induction xs generalizing acc with
  | nil => rfl
  | cons a xs ih => cases a <;> simp [addReplies, ih]

@[simp] theorem replySet_append_reply (pre : List (Arrival M E)) (n : NodeId) (m : M) :
    replySet (pre ++ [Arrival.reply n m]) = (replySet pre).insert n m := by
  simp [replySet, addReplies]

@[simp] theorem replySet_append_error (pre : List (Arrival M E)) (n : NodeId) (c : E) :
    replySet (pre ++ [Arrival.error n c]) = replySet pre := by
  simp [replySet, addReplies]

@[simp] theorem replySet_append_ctxDone (pre : List (Arrival M E)) (c : E) :
    replySet (pre ++ [Arrival.ctxDone c]) = replySet pre := by
  simp [replySet, addReplies]

/-- every arrival adds at most one answer (an error or a map entry) -/
theorem errsOf_replySet_length_le (as : List (Arrival M E)) :
    (errsOf as).length + (replySet as).length ≤ as.length := by
  induction as using List.snoc_induction with
  | nil => exact Nat.le_refl 0
  | snoc as a ih =>
    cases a with
    | reply n m => have := RepMap.length_insert_le (replySet as) n m; simp [errsOf]; omega
    | error n c | ctxDone c => simp [errsOf]; omega

/-- all prefixes, shortest first -/
def prefixes {α} : List α → List (List α)
  | [] => [[]]
  | a :: as => [] :: (prefixes as).map (a :: ·)

theorem mem_prefixes {α} {p as : List α} : p ∈ prefixes as ↔ p <+: as := by
  induction as generalizing p with
  | nil => simp [prefixes]
  | cons a as ih => simp [prefixes, List.prefix_cons_iff, ih, eq_comm, and_comm]

theorem prefixes_concat {α} (as : List α) (a : α) : prefixes (as ++ [a]) = prefixes as ++ [as ++ [a]] := by
  induction as with
  | nil => rfl
  | cons b as ih => simp [prefixes, ih]

theorem findSome?_prefixes_eq_some {α β} {f : List α → Option β} {as : List α} {b : β}
    (h : (prefixes as).findSome? f = some b) :
    ∃ p s, as = p ++ s ∧ (∀ q ∈ prefixes p, q ≠ p → f q = none) ∧ f p = some b := by
  induction as using List.snoc_induction with
  | nil => exact ⟨[], [], rfl, by simp [prefixes], by simpa [prefixes] using h⟩
  | snoc as a ih =>
    rw [prefixes_concat, List.findSome?_append] at h
    cases hf : (prefixes as).findSome? f with
    | some b' =>
      obtain rfl : b' = b := by simpa [hf] using h
      obtain ⟨p, s, rfl, hp, hb⟩ := ih hf
      exact ⟨p, s ++ [a], by simp, hp, hb⟩
    | none =>
      refine ⟨as ++ [a], [], by simp, fun q hq hne => List.findSome?_eq_none_iff.1 hf q ?_, by simpa [hf] using h⟩
      simpa [prefixes_concat, hne] using hq

theorem exhaustedOutcome_cases (P : Params) (errs : List (NodeId × E)) (n : Nat) (rest : List (Arrival M E)) :
    (exhaustedOutcome P errs n rest : Outcome R E) = .incomplete errs n ∨
      ∃ c post, rest = .ctxDone c :: post ∧ P.ctxCause = true ∧
        (exhaustedOutcome P errs n rest : Outcome R E) = .ctxErr c errs n := by
  unfold exhaustedOutcome
  split
  · rename_i c post
    cases h : P.ctxCause
    · left; simp
    · right; exact ⟨c, post, rfl, rfl, by simp⟩
  · left; rfl

theorem exhaustedOutcome_good {P : Params} (hP : P.Good) (errs : List (NodeId × E)) (n : Nat)
    (rest : List (Arrival M E)) :
    (exhaustedOutcome P errs n rest : Outcome R E) =
      (match rest with | .ctxDone c :: _ => .ctxErr c errs n | _ => .incomplete errs n) := by
  obtain ⟨_, _, hc⟩ := hP
  unfold exhaustedOutcome
  split <;> simp [hc]

end GorumsV.ReplyLoop

namespace GorumsV.C01
open GorumsV.ReplyLoop
variable {M E : Type}

/-- does a history end with a successful reply -/
def endsInReply (p : List (Arrival M E)) : Bool :=
  match p.getLast? with
  | some (.reply _ _) => true
  | _ => false

@[simp] theorem endsInReply_append_reply (pre : List (Arrival M E)) (n : NodeId) (m : M) :
    endsInReply (pre ++ [Arrival.reply n m]) = true := by simp [endsInReply]
@[simp] theorem endsInReply_append_error (pre : List (Arrival M E)) (n : NodeId) (c : E) :
    endsInReply (pre ++ [Arrival.error (M := M) n c]) = false := by simp [endsInReply]
@[simp] theorem endsInReply_append_ctxDone (pre : List (Arrival M E)) (c : E) :
    endsInReply (pre ++ [Arrival.ctxDone (M := M) c]) = false := by simp [endsInReply]

/-- the cumulative reply sets of the prefixes of `p` that end in a reply, in order: what the quorum function
    is shown while the loop consumes `p` -/
def replyLog (p : List (Arrival M E)) : List (RepMap M) := ((prefixes p).filter endsInReply).map replySet

theorem replyLog_concat (p : List (Arrival M E)) (a : Arrival M E) :
    replyLog (p ++ [a]) = replyLog p ++ if endsInReply (p ++ [a]) then [replySet (p ++ [a])] else [] := by
  unfold replyLog
  rw [prefixes_concat, List.filter_append, List.map_append]
  cases h : endsInReply (p ++ [a]) <;> simp [h]

theorem mem_replyLog {p : List (Arrival M E)} {reps : RepMap M} :
    reps ∈ replyLog p ↔ ∃ q, q <+: p ∧ endsInReply q = true ∧ replySet q = reps := by
  simp [replyLog, mem_prefixes, and_assoc]

theorem mem_dropLast_replyLog {p : List (Arrival M E)} {reps : RepMap M} (h : reps ∈ (replyLog p).dropLast) :
    ∃ q, q <+: p ∧ q ≠ p ∧ endsInReply q = true ∧ replySet q = reps := by
  rcases List.eq_nil_or_snoc p with rfl | ⟨p, a, rfl⟩
  · cases h
  · have h' : reps ∈ replyLog p := by
      rw [replyLog_concat] at h
      split at h
      · rwa [List.dropLast_concat] at h
      · rw [List.append_nil] at h; exact List.dropLast_subset _ h
    obtain ⟨q, hq, hr⟩ := mem_replyLog.1 h'
    exact ⟨q, hq.trans (List.prefix_append p [a]), fun e => absurd (e ▸ hq).length_le (by simp), hr⟩

theorem getLast?_replyLog {p : List (Arrival M E)} (h : endsInReply p = true) :
    (replyLog p).getLast? = some (replySet p) := by
  rcases List.eq_nil_or_snoc p with rfl | ⟨p, a, rfl⟩
  · cases h
  · simp [replyLog_concat, h]

end GorumsV.C01
