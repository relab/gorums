/-!
  General facts that core Lean lacks and that several models need: an `if` read as its two cases, lists
  taken from the right, lists without duplicates.
-/

namespace GorumsV

theorem ite_eq_iff {α} {c : Prop} [Decidable c] {a b x : α} :
    (if c then a else b) = x ↔ c ∧ a = x ∨ ¬c ∧ b = x := by
  split <;> simp [*]

namespace List
open _root_.List

theorem snoc_induction {α} {motive : List α → Prop} (nil : motive [])
    (snoc : ∀ l a, motive l → motive (l ++ [a])) (l : List α) : motive l := by
  rw [← l.reverse_reverse]
  induction l.reverse with
  | nil => exact nil
  | cons a l ih => rw [reverse_cons]; exact snoc _ _ ih

theorem eq_nil_or_snoc {α} (l : List α) : l = [] ∨ ∃ l' a, l = l' ++ [a] :=
  (eq_nil_or_concat l).imp id fun ⟨l', a, h⟩ => ⟨l', a, h.trans concat_eq_append⟩

theorem forall_mem_concat {α : Type} {R : α → α → Prop} {l : List α} {a : α}
    (h : ∀ x ∈ l, ∀ y ∈ l, R x y) (hl : ∀ x ∈ l, R x a) (hr : ∀ x ∈ l, R a x) (ha : R a a) :
    ∀ x ∈ l ++ [a], ∀ y ∈ l ++ [a], R x y := by
  intro x hx y hy
  rcases mem_append.1 hx with hx | hx <;> rcases mem_append.1 hy with hy | hy
  · exact h x hx y hy
  · rw [mem_singleton.1 hy]; exact hl x hx
  · rw [mem_singleton.1 hx]; exact hr y hy
  · rw [mem_singleton.1 hx, mem_singleton.1 hy]; exact ha

theorem eq_of_nodup_map {α β : Type} {f : α → β} : ∀ {l : List α}, (l.map f).Nodup →
    ∀ {a b}, a ∈ l → b ∈ l → f a = f b → a = b
  | [], _, _, _, ha, _, _ => nomatch ha
  | x :: xs, h, a, b, ha, hb, hab => by
    rw [map_cons, nodup_cons] at h
    rcases mem_cons.1 ha with rfl | ha' <;> rcases mem_cons.1 hb with rfl | hb'
    · rfl
    · exact absurd (hab ▸ mem_map_of_mem hb') h.1
    · exact absurd (hab ▸ mem_map_of_mem ha') h.1
    · exact eq_of_nodup_map h.2 ha' hb' hab

theorem nodup_append_singleton {α : Type} {l : List α} {x : α} : (l ++ [x]).Nodup ↔ l.Nodup ∧ x ∉ l := by
  simp only [nodup_append, nodup_cons, not_mem_nil, not_false_eq_true, nodup_nil, and_self, true_and,
    mem_singleton, forall_eq]
  exact and_congr_right fun _ => ⟨fun h hx => h x hx rfl, fun h a ha e => h (e ▸ ha)⟩

end List

end GorumsV
