/-!
  `goe_arith` closes what is left of a tie lemma after `simp` has evaluated
  `GoE.ev` on the generated term: a Boolean identity between integer
  (in)equalities.  It is deliberately generic, so that harmless rewrites of the
  Go expression (`a+b == x`, `x == b+a`, `!(a+b != x)` …) keep proving, while a
  semantic change (`>=`, an off-by-one) makes it fail for all inputs at once.

  What `simp` leaves depends on how the Go expression is written, hence three cases:
  nothing; a proposition of linear arithmetic (over `Int`, with casts of the `Nat` parameters), which
  `omega` decides; an equation between two Booleans, which is first read as `(_ = true) ↔ (_ = true)`
  and taken apart into such a proposition.
-/
macro "goe_arith" : tactic => `(tactic| first
  | done
  | omega
  | (rw [Bool.eq_iff_iff]
     simp only [beq_iff_eq, bne_iff_ne, decide_eq_true_eq, Bool.and_eq_true, Bool.or_eq_true,
       Bool.not_eq_true', ne_eq, decide_eq_false_iff_not]
     omega))
