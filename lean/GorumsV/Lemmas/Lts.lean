/-!
  Every transition system of the model is a partial `step : σ → ι → Option σ` with its own `exec`
  running `step` along a trace.  What holds of all of them is proved here once, about any `exec`
  satisfying the two defining equations (`IsExec`); each model supplies them by `rfl` (`Chan.isExec`, …).
-/
namespace GorumsV.Lts

universe u v
variable {σ : Type u} {ι : Type v} {step : σ → ι → Option σ} {exec : σ → List ι → Option σ}

structure IsExec (step : σ → ι → Option σ) (exec : σ → List ι → Option σ) : Prop where
  nil : ∀ s, exec s [] = some s
  cons : ∀ s l ls, exec s (l :: ls) = (step s l).bind (fun s' => exec s' ls)

namespace IsExec

theorem induction (E : IsExec step exec) {motive : σ → List ι → σ → Prop}
    (nil : ∀ s, motive s [] s)
    (cons : ∀ s l s₁ ls s', step s l = some s₁ → exec s₁ ls = some s' → motive s₁ ls s' →
      motive s (l :: ls) s') :
    ∀ {ls s s'}, exec s ls = some s' → motive s ls s'
  | [], s, s', h => by
    rw [E.nil] at h
    cases h
    exact nil s
  | l :: ls, s, s', h => by
    rw [E.cons] at h
    cases h₁ : step s l with
    | none => rw [h₁] at h; cases h
    | some s₁ =>
      rw [h₁] at h
      exact cons s l s₁ ls s' h₁ h (E.induction nil cons h)

theorem invariant_of_labels (E : IsExec step exec) {P : σ → Prop} {Q : ι → Prop}
    (hstep : ∀ s s' l, P s → step s l = some s' → Q l → P s')
    {ls s s'} (hs : P s) (h : exec s ls = some s') (hQ : ∀ l ∈ ls, Q l) : P s' :=
  E.induction (motive := fun s ls s' => P s → (∀ l ∈ ls, Q l) → P s')
    (fun _ hs _ => hs)
    (fun s l s₁ _ _ h₁ _ ih hs hQ =>
      ih (hstep s s₁ l hs h₁ (hQ l (List.mem_cons_self ..)))
        (fun l' hl' => hQ l' (List.mem_cons_of_mem _ hl')))
    h hs hQ

theorem invariant (E : IsExec step exec) {P : σ → Prop}
    (hstep : ∀ s s' l, P s → step s l = some s' → P s')
    {ls s s'} (hs : P s) (h : exec s ls = some s') : P s' :=
  E.invariant_of_labels (Q := fun _ => True) (fun s s' l hs h _ => hstep s s' l hs h) hs h
    (fun _ _ => trivial)

theorem singleton (E : IsExec step exec) (s : σ) (l : ι) : exec s [l] = step s l := by
  rw [E.cons]
  cases step s l with
  | none => rfl
  | some s' => exact E.nil s'

theorem append (E : IsExec step exec) (s : σ) (l₁ l₂ : List ι) :
    exec s (l₁ ++ l₂) = (exec s l₁).bind (fun t => exec t l₂) := by
  induction l₁ generalizing s with
  | nil => rw [List.nil_append, E.nil, Option.bind_some]
  | cons a l₁ ih =>
    rw [List.cons_append, E.cons, E.cons]
    cases step s a with
    | none => rfl
    | some t => exact ih t

/-! what can be reached from `i` (each model's `Reachable s` unfolds to `∃ ls, exec init ls = some s`) -/

theorem reachable_exec (E : IsExec step exec) {i s s' : σ} {ls : List ι}
    (h : ∃ ls, exec i ls = some s) (he : exec s ls = some s') : ∃ ls, exec i ls = some s' := by
  obtain ⟨l₀, h₀⟩ := h
  exact ⟨l₀ ++ ls, by rw [E.append, h₀]; exact he⟩

theorem reachable_step (E : IsExec step exec) {i s s' : σ} {l : ι}
    (h : ∃ ls, exec i ls = some s) (hs : step s l = some s') : ∃ ls, exec i ls = some s' :=
  E.reachable_exec (ls := [l]) h (by rw [E.singleton]; exact hs)

theorem reachable_invariant (E : IsExec step exec) {P : σ → Prop} {i : σ} (hi : P i)
    (hstep : ∀ s s' l, P s → step s l = some s' → P s') {s : σ}
    (h : ∃ ls, exec i ls = some s) : P s :=
  h.elim fun _ h => E.invariant hstep hi h

end IsExec
end GorumsV.Lts
