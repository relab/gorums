import GorumsV.Model.Correctable
/-!
  What `Obj.set` and `Obj.watch` do to the object and its watchers: the one place where the two are unfolded
  (Props/C11, Props/WatchConcP).
-/
namespace GorumsV.Correctable
variable {V E : Type} {o o' : Obj V E} {r : Option V} {l : Int} {e : Option (CErr E)} {d : Bool}

theorem Obj.set_of_done (hd : o.done = true) (r : Option V) (l : Int) (e : Option (CErr E)) (d : Bool) :
    o.set r l e d = none := by
  simp [Obj.set, hd]

theorem Obj.set_of_not_done (hd : o.done = false) (r : Option V) (l : Int) (e : Option (CErr E)) (d : Bool) :
    o.set r l e d = some
      { reply := r, level := l, err := e, done := d,
        watchers := o.watchers.map fun w => if d || decide (w.level ≤ l) then { w with closed := true } else w } := by
  simp [Obj.set, hd]

theorem Obj.set_eq_some_iff :
    o.set r l e d = some o' ↔ o.done = false ∧
      o' = { reply := r, level := l, err := e, done := d,
             watchers := o.watchers.map fun w => if d || decide (w.level ≤ l) then { w with closed := true } else w } := by
  cases hd : o.done
  · simp [Obj.set_of_not_done hd, eq_comm (a := o')]
  · simp [Obj.set_of_done hd]

theorem Obj.watcher_of_set (hs : o.set r l e d = some o') {w' : Watcher} (hw : w' ∈ o'.watchers) :
    ∃ w ∈ o.watchers, w'.level = w.level ∧ (w'.closed = true ↔ w.closed = true ∨ d = true ∨ w.level ≤ l) := by
  obtain ⟨_, rfl⟩ := Obj.set_eq_some_iff.1 hs
  obtain ⟨w, hw0, rfl⟩ := List.mem_map.1 hw
  refine ⟨w, hw0, ?_⟩
  cases d <;> by_cases hl : w.level ≤ l <;> simp [hl]

theorem Obj.closed_of_set (hs : o.set r l e d = some o') {w' : Watcher} (hw : w' ∈ o'.watchers)
    (h : d = true ∨ w'.level ≤ l) : w'.closed = true := by
  obtain ⟨w, _, hl, hc⟩ := Obj.watcher_of_set hs hw
  exact hc.2 (.inr (hl ▸ h))

theorem Obj.watcher_of_watch {w : Watcher} (hw : w ∈ (o.watch l).watchers) :
    w ∈ o.watchers ∨ w.level = l ∧ (w.closed = true ↔ l ≤ o.level ∨ o.done = true) := by
  rcases List.mem_append.1 hw with hw | hw
  · exact .inl hw
  · rw [List.mem_singleton.1 hw]
    exact .inr ⟨rfl, by simp⟩

end GorumsV.Correctable
