import GorumsV.Generated.Skel
import GorumsV.Model.Skeletons
/-! Written by scripts/mk_tie_skel.py (run by hand when the lists change; the output is committed).  Digest obligations of C03:
    the functions its model was written from are unchanged in the tree (tier T2). -/
namespace GorumsV.Tie.C03Skel

theorem skel_ch_enqueue_unchanged : Generated.skel_ch_enqueue = Skeletons.expected_skel_ch_enqueue := by rfl
theorem skel_ch_sender_unchanged : Generated.skel_ch_sender = Skeletons.expected_skel_ch_sender := by rfl
theorem skel_ch_sendMsg_unchanged : Generated.skel_ch_sendMsg = Skeletons.expected_skel_ch_sendMsg := by rfl
theorem skel_ch_newChannel_unchanged : Generated.skel_ch_newChannel = Skeletons.expected_skel_ch_newChannel := by rfl
theorem skel_srv_NodeStream_unchanged : Generated.skel_srv_NodeStream = Skeletons.expected_skel_srv_NodeStream := by rfl
theorem skel_QuorumCall_unchanged : Generated.skel_QuorumCall = Skeletons.expected_skel_QuorumCall := by rfl
theorem skel_AsyncCall_unchanged : Generated.skel_AsyncCall = Skeletons.expected_skel_AsyncCall := by rfl
theorem skel_CorrectableCall_unchanged : Generated.skel_CorrectableCall = Skeletons.expected_skel_CorrectableCall := by rfl
theorem skel_Multicast_unchanged : Generated.skel_Multicast = Skeletons.expected_skel_Multicast := by rfl
theorem skel_Unicast_unchanged : Generated.skel_Unicast = Skeletons.expected_skel_Unicast := by rfl
theorem skel_RPCCall_unchanged : Generated.skel_RPCCall = Skeletons.expected_skel_RPCCall := by rfl
theorem skel_tmplfile_server_unchanged : Generated.skel_tmplfile_server = Skeletons.expected_skel_tmplfile_server := by rfl

end GorumsV.Tie.C03Skel

section Audit
open GorumsV.Tie.C03Skel
#print axioms skel_ch_enqueue_unchanged
#print axioms skel_ch_sender_unchanged
#print axioms skel_ch_sendMsg_unchanged
#print axioms skel_ch_newChannel_unchanged
#print axioms skel_srv_NodeStream_unchanged
#print axioms skel_QuorumCall_unchanged
#print axioms skel_AsyncCall_unchanged
#print axioms skel_CorrectableCall_unchanged
#print axioms skel_Multicast_unchanged
#print axioms skel_Unicast_unchanged
#print axioms skel_RPCCall_unchanged
#print axioms skel_tmplfile_server_unchanged
end Audit
