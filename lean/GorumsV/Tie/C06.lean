import GorumsV.Props.C06
import GorumsV.Generated.Exprs
import GorumsV.Tie.TreeParams
/-!
  Tie for C06: in every call type the skip test of the per-node loop is "the per-node
  function returned an invalid (nil) message", skipped nodes are not counted, every hand-off
  is a plain statement of the loop; the multicast wait loop waits while confirmations are
  outstanding; a request waits for its send iff it is a one-way call without the
  no-send-waiting option.  (Digest obligations: Tie/C06Skel.lean.)
-/
namespace GorumsV.Tie.C06
open GorumsV.GoE

def envV (valid : Bool) : Env := envOf [("msg.ProtoReflect().IsValid()", .bool valid)]

/-- a node is skipped iff the per-node message is not valid (a valid empty message is sent) -/
theorem skipCond_good (valid : Bool) :
    ev (envV valid) Generated.qc_skipCond = .bool (!valid) ∧ ev (envV valid) Generated.async_skipCond = .bool (!valid) ∧
    ev (envV valid) Generated.corr_skipCond = .bool (!valid) ∧ ev (envV valid) Generated.mcast_skipCond = .bool (!valid) := by
  simp [Generated.qc_skipCond, Generated.async_skipCond, Generated.corr_skipCond, Generated.mcast_skipCond, envV]

/-- skipped nodes are not counted (`expectedReplies--`); multicast counts sent messages instead -/
theorem skipDecr_good : Generated.qc_skipDecr = true ∧ Generated.async_skipDecr = true ∧ Generated.corr_skipDecr = true := by decide

/-- every hand-off to a node channel is a plain statement of the per-node loop (issued by the caller itself, in configuration order) -/
theorem enqPlain_good : Generated.qc_enqPlain = true ∧ Generated.async_enqPlain = true ∧ Generated.corr_enqPlain = true ∧ Generated.mcast_enqPlain = true := by decide

def envM (sent : Nat) : Env := envOf [("sentMsgs", .int sent)]
/-- the multicast wait loop runs while confirmations are outstanding -/
theorem mcast_waitCond_good (sent : Nat) : ev (envM sent) Generated.mcast_waitCond = .bool (decide (0 < sent)) := by
  simp [Generated.mcast_waitCond, envM]

def envW (oneway nsw : Bool) : Env := envOf [("req.opts.callType", if oneway then .ref 1 else .nil), ("req.opts.noSendWaiting", .bool nsw)]
/-- a request is confirmed to its caller after the send iff it is a one-way call without no-send-waiting -/
theorem waitForSend_good (oneway nsw : Bool) : ev (envW oneway nsw) Generated.ch_waitForSend = .bool (oneway && !nsw) := by
  cases oneway <;> simp [Generated.ch_waitForSend, envW]

/-! ### own message, end to end (composite system `Net`) -/

/-- one id per call from the manager-wide counter, carried by every message of the call (read from the tree):
    the premise under which "the request with this id addressed to this node" is unique -/
theorem net_ids_good : Tie.Tree.idFacts = true := by decide +kernel

/-- at most once: the library hands a message to a node's stream once (`Chan`: `sent` has no repetition) and the transport
    is not configured to replay it: the manager adds no service config / retry policy to the dial options -/
theorem dialOpts_good : Generated.mgr_dialOpts = ["grpc.WithDefaultCallOptions", "grpc.WithConnectParams"] := by rfl

end GorumsV.Tie.C06

section Audit
open GorumsV.Tie.C06 GorumsV.C06
#print axioms skipCond_good
#print axioms skipDecr_good
#print axioms enqPlain_good
#print axioms mcast_waitCond_good
#print axioms waitForSend_good
#print axioms targets_none
#print axioms targets_some
#print axioms targets_nodup
#print axioms targets_order
#print axioms expected_eq_targets
#print axioms mcast_waits_for_confirmations
#print axioms mcast_nosendwaiting
#print axioms net_ids_good
#print axioms dialOpts_good
#print axioms GorumsV.NetP.server_receives_own_payload
#print axioms GorumsV.NetP.handler_payload_is_addressed
#print axioms GorumsV.NetP.issue_unique
end Audit
