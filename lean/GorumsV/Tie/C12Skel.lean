import GorumsV.Generated.Skel
import GorumsV.Model.Skeletons
/-! Written by scripts/mk_tie_skel.py (run by hand when the lists change; the output is committed).  Digest obligations of C12:
    the functions its model was written from are unchanged in the tree (tier T2). -/
namespace GorumsV.Tie.C12Skel

theorem skel_mgr_RawManager_Close_unchanged : Generated.skel_mgr_RawManager_Close = Skeletons.expected_skel_mgr_RawManager_Close := by rfl
theorem skel_mgr_RawManager_closeNodeConns_unchanged : Generated.skel_mgr_RawManager_closeNodeConns = Skeletons.expected_skel_mgr_RawManager_closeNodeConns := by rfl
theorem skel_node_RawNode_close_unchanged : Generated.skel_node_RawNode_close = Skeletons.expected_skel_node_RawNode_close := by rfl
theorem skel_node_RawNode_connect_unchanged : Generated.skel_node_RawNode_connect = Skeletons.expected_skel_node_RawNode_connect := by rfl
theorem skel_node_RawNode_dial_unchanged : Generated.skel_node_RawNode_dial = Skeletons.expected_skel_node_RawNode_dial := by rfl
theorem skel_ch_enqueue_unchanged : Generated.skel_ch_enqueue = Skeletons.expected_skel_ch_enqueue := by rfl
theorem skel_ch_sender_unchanged : Generated.skel_ch_sender = Skeletons.expected_skel_ch_sender := by rfl
theorem skel_ch_receiver_unchanged : Generated.skel_ch_receiver = Skeletons.expected_skel_ch_receiver := by rfl
theorem skel_ch_reconnect_unchanged : Generated.skel_ch_reconnect = Skeletons.expected_skel_ch_reconnect := by rfl
theorem skel_Multicast_unchanged : Generated.skel_Multicast = Skeletons.expected_skel_Multicast := by rfl
theorem skel_Unicast_unchanged : Generated.skel_Unicast = Skeletons.expected_skel_Unicast := by rfl

end GorumsV.Tie.C12Skel

section Audit
open GorumsV.Tie.C12Skel
#print axioms skel_mgr_RawManager_Close_unchanged
#print axioms skel_mgr_RawManager_closeNodeConns_unchanged
#print axioms skel_node_RawNode_close_unchanged
#print axioms skel_node_RawNode_connect_unchanged
#print axioms skel_node_RawNode_dial_unchanged
#print axioms skel_ch_enqueue_unchanged
#print axioms skel_ch_sender_unchanged
#print axioms skel_ch_receiver_unchanged
#print axioms skel_ch_reconnect_unchanged
#print axioms skel_Multicast_unchanged
#print axioms skel_Unicast_unchanged
end Audit
