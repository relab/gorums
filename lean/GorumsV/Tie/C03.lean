import GorumsV.Props.C03
import GorumsV.Tie.C06
import GorumsV.Generated.Exprs
import GorumsV.Props.NetCall
/-!
  Tie for C03: every call type hands its requests to the node channels by plain statements of
  its per-node loop (Tie/C06 `enqPlain_good`: not under `go`, not in a closure — so the hand-off
  order of two calls follows their happens-before order), the send queue's capacity is the
  manager option (any capacity keeps FIFO), and the digests of enqueue / sender / sendMsg /
  newChannel / NodeStream / the six issuing functions (Tie/C03Skel.lean).
-/
namespace GorumsV.Tie.C03

/-- the send queue is one Go channel whose capacity is the send-buffer option (a Go channel is FIFO for every capacity) -/
theorem sendQCap_good : Generated.ch_sendQCap = .atom "n.mgr.opts.sendBuffer" := by rfl

end GorumsV.Tie.C03

section Audit
open GorumsV.Tie.C03 GorumsV.C03
#print axioms sendQCap_good
#print axioms GorumsV.Tie.C06.enqPlain_good
#print axioms sent_in_handoff_order
#print axioms queue_is_fifo
#print axioms started_in_receive_order
#print axioms start_order
#print axioms no_overtaking
#print axioms GorumsV.NetP.net_stream_contract
#print axioms GorumsV.NetP.net_start_order
#print axioms GorumsV.NetP.chan_reachable
#print axioms GorumsV.NetP.srv_reachable
end Audit
