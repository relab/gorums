import GorumsV.Generated.Skel
import GorumsV.Model.Skeletons
/-! Written by scripts/mk_tie_skel.py (run by hand when the lists change; the output is committed).  Digest obligations of C02:
    the functions its model was written from are unchanged in the tree (tier T2). -/
namespace GorumsV.Tie.C02Skel

theorem skel_QuorumCall_unchanged : Generated.skel_QuorumCall = Skeletons.expected_skel_QuorumCall := by rfl
theorem skel_AsyncCall_unchanged : Generated.skel_AsyncCall = Skeletons.expected_skel_AsyncCall := by rfl
theorem skel_handleAsyncCall_unchanged : Generated.skel_handleAsyncCall = Skeletons.expected_skel_handleAsyncCall := by rfl
theorem skel_AsyncGet_unchanged : Generated.skel_AsyncGet = Skeletons.expected_skel_AsyncGet := by rfl
theorem skel_AsyncDone_unchanged : Generated.skel_AsyncDone = Skeletons.expected_skel_AsyncDone := by rfl
theorem skel_QCEError_unchanged : Generated.skel_QCEError = Skeletons.expected_skel_QCEError := by rfl
theorem skel_nodeErrorError_unchanged : Generated.skel_nodeErrorError = Skeletons.expected_skel_nodeErrorError := by rfl
theorem skel_incompleteCause_unchanged : Generated.skel_incompleteCause = Skeletons.expected_skel_incompleteCause := by rfl

end GorumsV.Tie.C02Skel

section Audit
open GorumsV.Tie.C02Skel
#print axioms skel_QuorumCall_unchanged
#print axioms skel_AsyncCall_unchanged
#print axioms skel_handleAsyncCall_unchanged
#print axioms skel_AsyncGet_unchanged
#print axioms skel_AsyncDone_unchanged
#print axioms skel_QCEError_unchanged
#print axioms skel_nodeErrorError_unchanged
#print axioms skel_incompleteCause_unchanged
end Audit
