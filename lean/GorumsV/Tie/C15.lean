import GorumsV.Props.C15
import GorumsV.Generated.Exprs
/-!
  Tie for C15: `Generated.accessTable` is rewritten by `gx` on every run: every selector on a
  tracked field of channel / RawManager / RawNode / Correctable, with the function it occurs in,
  whether it writes, and the locks syntactically held there.  `policy_holds` (kernel-checked)
  says that every row obeys the field's policy — the premise `GuardedBy` of the generic theorem
  `C15.guarded_race_free`, as far as a syntactic lock-set analysis can establish it.
  A lock removed, a new unguarded access, a read under the wrong lock changes a row and breaks it.
  The atomic flags are only touched through sync/atomic (`atomicFlagOK`).
-/
namespace GorumsV.Tie.C15
open GorumsV.Generated

/-- the lock discipline of the tracked fields -/
def rowOK (r : AccessRow) : Bool :=
  if r.owner == "Correctable" then r.locks.contains "mu:Correctable"
  else if r.owner == "RawManager" then r.locks.contains "mu:RawManager"
  else if r.owner == "RawNode" then r.locks.contains "connMu:RawNode"
  else if r.owner == "channel" then
    if r.field == "responseRouters" then r.locks.contains "responseMut"
    else if r.field == "lastError" || r.field == "latency" then r.locks.contains "mu:channel"
    else if r.field == "gorumsStream" || r.field == "streamCtx" || r.field == "cancelStream" || r.field == "gorumsClient" then
      r.locks.contains "streamMut:W" || (!r.write && r.locks.contains "streamMut:R")
    -- set once in newChannel, before the goroutines exist, and only read afterwards
    else if r.field == "backoffCfg" || r.field == "parentCtx" || r.field == "node" || r.field == "sendQ" then
      !r.write || r.fn == "newChannel"
    -- a *rand.Rand is not safe for concurrent use: not used at all once the goroutines exist
    else if r.field == "rand" then r.fn == "newChannel"
    else false
  else false

/-- **every access the extractor finds obeys its field's policy** -/
theorem policy_holds : accessTable.all rowOK = true := by decide +kernel

/-- the table is not empty and covers every tracked group (a vacuous table would prove nothing) -/
theorem table_covers :
    accessTable.any (fun r => r.field == "responseRouters" && r.write) = true ∧
    accessTable.any (fun r => r.field == "gorumsStream" && r.write) = true ∧
    accessTable.any (fun r => r.field == "cancelStream" && !r.write) = true ∧
    accessTable.any (fun r => r.owner == "RawManager" && r.field == "nodes" && r.write) = true ∧
    accessTable.any (fun r => r.owner == "RawNode" && r.field == "conn" && r.write) = true ∧
    accessTable.any (fun r => r.owner == "Correctable" && r.field == "level" && r.write) = true ∧
    40 ≤ accessTable.length := by decide +kernel

/-- the flags streamBroken / connEstablished are accessed through sync/atomic only -/
theorem atomic_flags : atomicFlagOK = true := by decide

end GorumsV.Tie.C15

section Audit
open GorumsV.Tie.C15 GorumsV.C15
#print axioms policy_holds
#print axioms table_covers
#print axioms atomic_flags
#print axioms guarded_race_free
#print axioms racy_not_ordered
end Audit
