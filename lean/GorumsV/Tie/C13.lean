import GorumsV.Props.C13
import GorumsV.Generated.Exprs
import GorumsV.Generated.Skel
import GorumsV.Model.Skeletons
/-!
  Tie for C13: the descriptor assertion in `gorumsUnmarshal` is of the checked
  (comma-ok) form, the direction switch picks `Input()` for requests and
  `Output()` for responses, and the functions the model was written from are
  unchanged; the totality theorem is then instantiated with the tree's value.
-/
namespace GorumsV.Tie.C13
open GorumsV.Codec GorumsV.C13

/-- the assertion `desc.(protoreflect.MethodDescriptor)` is checked -/
theorem assertChecked_good : Generated.codec_assertChecked = some true := by decide

/-- request ⇒ Input, response ⇒ Output (as in `Codec.pick`) -/
theorem direction_arms_good :
    Generated.codec_reqArm = "messageName = methodDesc.Input().FullName()" ∧
    Generated.codec_respArm = "messageName = methodDesc.Output().FullName()" := ⟨rfl, rfl⟩

def treeChecked : Bool := Generated.codec_assertChecked == some true

/-- **the decoder of the tree never panics**, on any byte string -/
theorem tree_unmarshal_total {Md Msg : Type} (O : Oracles Md Msg) (dir : Dir) (b : Bytes)
    (hempty : ∀ md, O.parseMetadata [] = some md → O.lookup (O.methodOf md) = .notFound) :
    ∀ why, unmarshal O treeChecked dir b ≠ .panic why := by
  have : treeChecked = true := by simp [treeChecked, assertChecked_good]
  rw [this]
  exact unmarshal_total O dir b hempty

theorem skel_gorumsMarshal_good : Generated.skel_gorumsMarshal = Skeletons.expected_skel_gorumsMarshal := by rfl
theorem skel_gorumsUnmarshal_good : Generated.skel_gorumsUnmarshal = Skeletons.expected_skel_gorumsUnmarshal := by rfl
theorem skel_CodecMarshal_good : Generated.skel_CodecMarshal = Skeletons.expected_skel_CodecMarshal := by rfl
theorem skel_CodecUnmarshal_good : Generated.skel_CodecUnmarshal = Skeletons.expected_skel_CodecUnmarshal := by rfl
theorem skel_NewCodec_good : Generated.skel_NewCodec = Skeletons.expected_skel_NewCodec := by rfl
/-- the protobuf decoder the codec is configured with keeps the fields it cannot interpret: the round-trip
    hypothesis on the oracle (`unmarshal (marshal m) = m`, also for messages carrying undeclared fields) is about
    the decoder as configured in `NewCodec` -/
theorem keepsUnknown_good : Generated.codec_keepsUnknown = true := by decide
theorem skel_newMessage_good : Generated.skel_newMessage = Skeletons.expected_skel_newMessage := by rfl
theorem skel_WrapMessage_good : Generated.skel_WrapMessage = Skeletons.expected_skel_WrapMessage := by rfl

end GorumsV.Tie.C13

section Audit
open GorumsV.Tie.C13 GorumsV.C13
#print axioms assertChecked_good
#print axioms direction_arms_good
#print axioms tree_unmarshal_total
#print axioms skel_NewCodec_good
#print axioms keepsUnknown_good
#print axioms skel_gorumsMarshal_good
#print axioms skel_gorumsUnmarshal_good
#print axioms skel_CodecMarshal_good
#print axioms skel_CodecUnmarshal_good
#print axioms skel_newMessage_good
#print axioms skel_WrapMessage_good
#print axioms uvarint_roundtrip
#print axioms consumeBytes_part
#print axioms frame_roundtrip
#print axioms consumeBytes_neg
#print axioms consumeBytes_in_range
#print axioms unmarshal_marshal
#print axioms unmarshal_total
#print axioms unmarshal_unchecked_panics
#print axioms status_roundtrip
#print axioms status_nil
#print axioms status_plain
end Audit
