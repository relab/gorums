import GorumsV.Props.C09
import GorumsV.Generated.Exprs
/-!
  Tie for C09: the two decisions of the connection management that the LTS `ConnMgr` takes as
  given are regenerated from channel.go — `isConnected` (both flags, in `sEval`) and the give-up
  test of `reconnect` (in `sRcDo`: with maxRetries = 1 the sender gives up at its second failure) —
  and the synchronisation skeleton of every function the LTS was written from is pinned
  (Tie/C09Skel.lean).  Behaviourally, engine wedge classifies every hang of the real code by its
  goroutine signature: the model's two wedge shapes are the two known findings.
-/
namespace GorumsV.Tie.C09
open GorumsV.GoE

def envC (established broken : Bool) : Env := envOf [("c.connEstablished.get()", .bool established), ("c.streamBroken.get()", .bool broken)]

/-- `isConnected` is "established and not broken" (the test of `ConnMgr.step … .sEval`) -/
theorem isConnected_good (e b : Bool) : ev (envC e b) Generated.ch_isConnected = .bool (e && !b) := by
  simp [Generated.ch_isConnected, envC]

def envG (retries maxRetries : Int) : Env := envOf [("retries", .int retries), ("maxRetries", .int maxRetries)]

/-- reconnect gives up iff a positive retry limit has been reached: reconnect(1) sleeps once and gives up at its
    second failure (`retriesS ≥ 1` in `sRcDo`), reconnect(-1) never gives up (the receiver) -/
theorem giveUp_good (r m : Int) : ev (envG r m) Generated.ch_giveUp = .bool (decide (r ≥ m) && decide (m > 0)) := by
  simp [Generated.ch_giveUp, envG]

theorem giveUp_sender (r : Nat) : ev (envG r 1) Generated.ch_giveUp = .bool (decide (r ≥ 1)) := by
  simp [giveUp_good]
  omega
theorem giveUp_receiver (r : Nat) : ev (envG r (-1)) Generated.ch_giveUp = .bool false := by
  simp [giveUp_good]

/-- a failed attempt to re-create the stream leaves the old stream object in place (`sRcDo` / `rRcDo`, failing
    branches: `alive` stays false and the receiver's next read is `rRecvErr`): `reconnect` assigns the stream field
    only when the new stream exists.  (The pinned code stored nil there; a receiver between two reads then crashed
    the process — found by engine crashrace, repaired by fix e211800.) -/
theorem reconnectKeepsStream_good : Generated.ch_reconnectKeepsStream = true := by decide

/-- replacement of a stream: `reconnect` runs `cancelPendingMsgs(true)` under the write lock, after the
    "already up" test and before it creates the new stream (`replaceStream` in `sRcDo` / `rRcDo`; Chan:
    `replaceCancel`); `sendMsg` marks a request as written before it hands it to the stream, and
    `cancelPendingMsgs(true)` skips the requests that are not marked (`Chan.cancelWritten`) -/
theorem replacement_good :
    Generated.ch_replaceCancels = true ∧ Generated.ch_markBeforeSend = true ∧ Generated.ch_cancelSkipsUnwritten = true := by
  decide

end GorumsV.Tie.C09

section Audit
open GorumsV.Tie.C09 GorumsV.C09
#print axioms isConnected_good
#print axioms giveUp_good
#print axioms giveUp_sender
#print axioms giveUp_receiver
#print axioms inv_init
#print axioms inv_step
#print axioms inv_reachable
#print axioms wedge_shapes
#print axioms wedge_shapes_any_peer
#print axioms staleBroken_is_stuck
#print axioms backpressure_is_stuck_for_receiver
#print axioms staleBroken_reachable
#print axioms backpressure_reachable
#print axioms no_backpressure_without_full_stream
#print axioms deleteRouter_enabled_iff
#print axioms retried_on_every_request
#print axioms timer_wait_reachable
#print axioms reply_progress_without_timer
#print axioms closed_stuck_means_exited
#print axioms closed_no_stream
#print axioms sender_exit_leaves_no_request
#print axioms GorumsV.Tie.C09.reconnectKeepsStream_good
#print axioms GorumsV.Tie.C09.replacement_good
#print axioms lost_is_cancelled
#print axioms lost_means_dead
#print axioms parked_means_nothing_lost
#print axioms replacement_answers_lost
#print axioms pinned_leak_reachable
#print axioms leak_trace_repaired
#print axioms backpressure_is_stuck_for_sender
#print axioms backpressure_is_stuck
end Audit
