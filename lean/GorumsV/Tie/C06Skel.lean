import GorumsV.Generated.Skel
import GorumsV.Model.Skeletons
/-! Written by scripts/mk_tie_skel.py (run by hand when the lists change; the output is committed).  Digest obligations of C06:
    the functions its model was written from are unchanged in the tree (tier T2). -/
namespace GorumsV.Tie.C06Skel

theorem skel_Multicast_unchanged : Generated.skel_Multicast = Skeletons.expected_skel_Multicast := by rfl
theorem skel_Unicast_unchanged : Generated.skel_Unicast = Skeletons.expected_skel_Unicast := by rfl
theorem skel_getCallOptions_unchanged : Generated.skel_getCallOptions = Skeletons.expected_skel_getCallOptions := by rfl
theorem skel_WithNoSendWaiting_unchanged : Generated.skel_WithNoSendWaiting = Skeletons.expected_skel_WithNoSendWaiting := by rfl
theorem skel_ch_sendMsg_unchanged : Generated.skel_ch_sendMsg = Skeletons.expected_skel_ch_sendMsg := by rfl
theorem skel_ch_waitForSend_unchanged : Generated.skel_ch_waitForSend = Skeletons.expected_skel_ch_waitForSend := by rfl
theorem skel_QuorumCall_unchanged : Generated.skel_QuorumCall = Skeletons.expected_skel_QuorumCall := by rfl
theorem skel_AsyncCall_unchanged : Generated.skel_AsyncCall = Skeletons.expected_skel_AsyncCall := by rfl
theorem skel_CorrectableCall_unchanged : Generated.skel_CorrectableCall = Skeletons.expected_skel_CorrectableCall := by rfl
theorem skel_tmplfile_multicast_unchanged : Generated.skel_tmplfile_multicast = Skeletons.expected_skel_tmplfile_multicast := by rfl
theorem skel_tmplfile_unicast_unchanged : Generated.skel_tmplfile_unicast = Skeletons.expected_skel_tmplfile_unicast := by rfl

end GorumsV.Tie.C06Skel

section Audit
open GorumsV.Tie.C06Skel
#print axioms skel_Multicast_unchanged
#print axioms skel_Unicast_unchanged
#print axioms skel_getCallOptions_unchanged
#print axioms skel_WithNoSendWaiting_unchanged
#print axioms skel_ch_sendMsg_unchanged
#print axioms skel_ch_waitForSend_unchanged
#print axioms skel_QuorumCall_unchanged
#print axioms skel_AsyncCall_unchanged
#print axioms skel_CorrectableCall_unchanged
#print axioms skel_tmplfile_multicast_unchanged
#print axioms skel_tmplfile_unicast_unchanged
end Audit
