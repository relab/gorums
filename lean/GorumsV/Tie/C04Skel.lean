import GorumsV.Generated.Skel
import GorumsV.Model.Skeletons
/-! Written by scripts/mk_tie_skel.py (run by hand when the lists change; the output is committed).  Digest obligations of C04:
    the functions its model was written from are unchanged in the tree (tier T2). -/
namespace GorumsV.Tie.C04Skel

theorem skel_srv_NodeStream_unchanged : Generated.skel_srv_NodeStream = Skeletons.expected_skel_srv_NodeStream := by rfl
theorem skel_srv_Release_unchanged : Generated.skel_srv_Release = Skeletons.expected_skel_srv_Release := by rfl
theorem skel_srv_SendMessage_unchanged : Generated.skel_srv_SendMessage = Skeletons.expected_skel_srv_SendMessage := by rfl
theorem skel_tmplfile_server_unchanged : Generated.skel_tmplfile_server = Skeletons.expected_skel_tmplfile_server := by rfl

end GorumsV.Tie.C04Skel

section Audit
open GorumsV.Tie.C04Skel
#print axioms skel_srv_NodeStream_unchanged
#print axioms skel_srv_Release_unchanged
#print axioms skel_srv_SendMessage_unchanged
#print axioms skel_tmplfile_server_unchanged
end Audit
