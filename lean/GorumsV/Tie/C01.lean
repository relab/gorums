import GorumsV.Props.C01
import GorumsV.Tie.C02
import GorumsV.Tie.TreeParams
/-!
  Tie for C01: the loop parameters of the tree are the good ones (Tie/C02), an arrival is
  treated as a failure exactly when it carries an error, and the reply channel has room
  for one answer per targeted node; the theorems are instantiated on the tree's parameters.
  (Digest obligations: Tie/C01Skel.lean.)
-/
namespace GorumsV.Tie.C01
open GorumsV.GoE GorumsV.ReplyLoop

def envArr (hasErr : Bool) : Env := envOf [("r.err", if hasErr then .ref 1 else .nil)]

/-- an arrival goes to the error list iff it carries an error (so an error never reaches the quorum function) -/
theorem qc_errGuard_good (hasErr : Bool) : ev (envArr hasErr) Generated.qc_errGuard = .bool hasErr := by
  cases hasErr <;> simp [Generated.qc_errGuard, envArr]
theorem async_errGuard_good (hasErr : Bool) : ev (envArr hasErr) Generated.async_errGuard = .bool hasErr := by
  cases hasErr <;> simp [Generated.async_errGuard, envArr]

/-- the reply channel is created with one slot per node of the configuration (≥ targeted nodes),
    so routing a non-streaming answer never blocks -/
theorem chanCap_good : Generated.qc_chanCap = .atom "expectedReplies" ∧ Generated.async_chanCap = .atom "expectedReplies" := ⟨rfl, rfl⟩

variable {M E R : Type}
theorem tree_ok_is_qf_verdict (qf : RepMap M → R × Bool) (x : Nat) (as : List (Arrival M E)) (v : R) (log : List (RepMap M))
    (h : run Tie.C02.P_qc qf x as = (.ok v, log)) : ∃ reps, log.getLast? = some reps ∧ qf reps = (v, true) :=
  C01.ok_is_qf_verdict _ _ _ _ _ _ h
theorem tree_async_same_log (qf : RepMap M → R × Bool) (x : Nat) (as : List (Arrival M E)) :
    (runAsync Tie.C02.P_async qf x as).2 = (run Tie.C02.P_async qf x as).2 := C01.async_same_log _ _ _ _


/-! ### genuine replies, end to end (composite system `Net` on the tree's parameters) -/

theorem net_echo_good : Tie.Tree.echoFacts = true := by decide +kernel
theorem net_ids_good : Tie.Tree.idFacts = true := by decide +kernel
theorem net_nid_good : Tie.Tree.nidFacts = true := by decide

/-- every entry of every reply set shown to the quorum function is, under node n, what n's handler computed from the
    payload this very call addressed to n — for the tree's loop parameters and the tree's id handling -/
theorem tree_qf_sees_only_genuine {E R : Type} (h : Net.NodeId → Net.Payload → Chan.Resp) (s : Net.State)
    (hr : Net.Reachable (Tie.Tree.netParams h) s) (c : Chan.CallId) (as : List (Arrival Nat E)) (hg : NetP.GenuineFor s c as)
    (qf : RepMap Nat → R × Bool) (x : Nat) (reps : RepMap Nat) (hreps : reps ∈ (run Tie.C02.P_qc qf x as).2)
    (n : Net.NodeId) (v : Nat) (hv : (n, v) ∈ reps) :
    ∃ id p, (⟨id, c, n, p⟩ : Net.Issue) ∈ s.issued ∧ h n p = .reply v :=
  NetP.qf_sees_only_genuine _ (by intro i; simp [Tie.Tree.netParams, net_echo_good]) s hr c as hg _ qf x reps hreps n v hv

end GorumsV.Tie.C01

section Audit
open GorumsV.Tie.C01 GorumsV.C01
#print axioms qc_errGuard_good
#print axioms async_errGuard_good
#print axioms chanCap_good
#print axioms net_echo_good
#print axioms net_ids_good
#print axioms net_nid_good
#print axioms tree_qf_sees_only_genuine
#print axioms GorumsV.NetP.qf_sees_only_genuine
#print axioms GorumsV.NetP.provenance
#print axioms tree_ok_is_qf_verdict
#print axioms tree_async_same_log
#print axioms GorumsV.Tie.C02.P_qc_good
#print axioms GorumsV.Tie.C02.P_async_good
#print axioms ok_is_qf_verdict
#print axioms no_invocation_after_quorum
#print axioms log_is_reply_prefixes
#print axioms replySet_entries_are_replies
#print axioms replySet_keys_nodup
#print axioms replySet_grows
#print axioms replySet_length_le
#print axioms async_same_log
end Audit
