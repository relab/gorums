import GorumsV.Props.C19
import GorumsV.Generated.Exprs
import GorumsV.Generated.Skel
import GorumsV.Model.Skeletons
/-!
  Tie for C19: the three provided keys *as written in the tree* are the orders
  the theorems are about, hence strict weak orders; `Less` has the shape the
  model `multiLess` was written from.
-/
namespace GorumsV.Tie.C19
open GorumsV.GoE GorumsV.NodeSort GorumsV.C19

/-- how the atoms of the key functions are read on two abstract nodes -/
def envK (a b : Key) : Env := envOf
  [("n1.id", .int a.id), ("n2.id", .int b.id), ("p1", .int a.port), ("p2", .int b.port),
   ("n1.channel.lastErr()", if a.hasErr then .ref 1 else .nil),
   ("n2.channel.lastErr()", if b.hasErr then .ref 1 else .nil)]

theorem key_ID_good (a b : Key) : ev (envK a b) Generated.key_ID = .bool (byID a b) := by
  simp [Generated.key_ID, envK, byID]

theorem key_Port_good (a b : Key) : ev (envK a b) Generated.key_Port = .bool (byPort a b) := by
  simp [Generated.key_Port, envK, byPort]

/-- `p1`, `p2` are the numeric ports of the two nodes -/
theorem key_Port_defs_good :
    Generated.key_Port_defs = ["p1,_:=strconv.Atoi(n1.Port())", "p2,_:=strconv.Atoi(n2.Port())"] := by rfl

theorem key_LastNodeError_good (a b : Key) :
    ev (envK a b) Generated.key_LastNodeError = .bool (byLastErr a b) := by
  cases ha : a.hasErr <;> cases hb : b.hasErr <;>
    simp [Generated.key_LastNodeError, envK, byLastErr, ha, hb]

/-- the keys of the tree, as functions -/
def treeKey (e : E) : LessFn := fun a b => ev (envK a b) e == .bool true

theorem treeKey_eq {e : E} {f : LessFn} (h : ∀ a b, ev (envK a b) e = .bool (f a b)) : treeKey e = f := by
  funext a b; simp [treeKey, h]

/-- **each provided key of the tree is a strict weak ordering** -/
theorem tree_keys_swo :
    StrictWeak (treeKey Generated.key_ID) ∧ StrictWeak (treeKey Generated.key_Port) ∧
    StrictWeak (treeKey Generated.key_LastNodeError) := by
  rw [treeKey_eq key_ID_good, treeKey_eq key_Port_good, treeKey_eq key_LastNodeError_good]
  exact ⟨byID_swo, byPort_swo, byLastErr_swo⟩

/-- **any sequence of the tree's keys sorts lexicographically** -/
theorem tree_lex_swo (ks : List LessFn)
    (h : ∀ k ∈ ks, k = treeKey Generated.key_ID ∨ k = treeKey Generated.key_Port ∨ k = treeKey Generated.key_LastNodeError) :
    StrictWeak (lexLt ks) := by
  apply lex_swo
  intro k hk
  rcases h k hk with rfl | rfl | rfl
  · exact tree_keys_swo.1
  · exact tree_keys_swo.2.1
  · exact tree_keys_swo.2.2

/-- the shape of `MultiSorter.Less` the model `multiLess` mirrors: loop over all but
    the last key, `less(p,q)` ⇒ true, `less(q,p)` ⇒ false, finally the last key's verdict -/
theorem less_shape_good :
    Generated.less_bound = .lt (.atom "k") (.sub (.atom "len(ms.less)") (.int 1)) ∧
    Generated.less_case1 = .atom "less(p,q)" ∧ Generated.less_case1_ret = .bool true ∧
    Generated.less_case2 = .atom "less(q,p)" ∧ Generated.less_case2_ret = .bool false ∧
    Generated.less_final = .atom "ms.less[k](p,q)" := ⟨rfl, rfl, rfl, rfl, rfl, rfl⟩

theorem skel_Less_good : Generated.skel_MultiSorterLess = Skeletons.expected_skel_MultiSorterLess := by rfl
theorem skel_Sort_good : Generated.skel_MultiSorterSort = Skeletons.expected_skel_MultiSorterSort := by rfl
theorem skel_Swap_good : Generated.skel_MultiSorterSwap = Skeletons.expected_skel_MultiSorterSwap := by rfl
theorem skel_Len_good : Generated.skel_MultiSorterLen = Skeletons.expected_skel_MultiSorterLen := by rfl
theorem skel_OrderedBy_good : Generated.skel_OrderedBy = Skeletons.expected_skel_OrderedBy := by rfl
/-- the accessors the keys read: `Port()` (the port of the node's address), `ID()`, `LastErr()`, `Address()` -/
theorem skel_PortAccessor_good : Generated.skel_node_RawNode_Port = Skeletons.expected_skel_node_RawNode_Port := by rfl
theorem skel_IDAccessor_good : Generated.skel_node_RawNode_ID = Skeletons.expected_skel_node_RawNode_ID := by rfl
theorem skel_LastErrAccessor_good : Generated.skel_node_RawNode_LastErr = Skeletons.expected_skel_node_RawNode_LastErr := by rfl
theorem skel_AddressAccessor_good : Generated.skel_node_RawNode_Address = Skeletons.expected_skel_node_RawNode_Address := by rfl

end GorumsV.Tie.C19

section Audit
open GorumsV.Tie.C19 GorumsV.C19
#print axioms key_ID_good
#print axioms key_Port_good
#print axioms key_Port_defs_good
#print axioms key_LastNodeError_good
#print axioms tree_keys_swo
#print axioms tree_lex_swo
#print axioms less_shape_good
#print axioms skel_Less_good
#print axioms skel_Sort_good
#print axioms skel_Swap_good
#print axioms skel_Len_good
#print axioms skel_OrderedBy_good
#print axioms skel_PortAccessor_good
#print axioms skel_IDAccessor_good
#print axioms skel_LastErrAccessor_good
#print axioms skel_AddressAccessor_good
#print axioms multiLess_is_lex
#print axioms lex_swo
#print axioms byID_swo
#print axioms byPort_swo
#print axioms byLastErr_swo
#print axioms pinned_lastErr_not_swo
#print axioms isort_perm
#print axioms isort_sorted
#print axioms sorted_ties
#print axioms sorted_first
#print axioms StrictWeak.incomp_trans
end Audit
