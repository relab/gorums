import GorumsV.Generated.Skel
import GorumsV.Model.Skeletons
/-! Written by scripts/mk_tie_skel.py (run by hand when the lists change; the output is committed).  Digest obligations of C08:
    the functions its model was written from are unchanged in the tree (tier T2). -/
namespace GorumsV.Tie.C08Skel

theorem skel_ch_enqueue_unchanged : Generated.skel_ch_enqueue = Skeletons.expected_skel_ch_enqueue := by rfl
theorem skel_RPCCall_unchanged : Generated.skel_RPCCall = Skeletons.expected_skel_RPCCall := by rfl
theorem skel_QuorumCall_unchanged : Generated.skel_QuorumCall = Skeletons.expected_skel_QuorumCall := by rfl
theorem skel_handleAsyncCall_unchanged : Generated.skel_handleAsyncCall = Skeletons.expected_skel_handleAsyncCall := by rfl
theorem skel_handleCorrectableCall_unchanged : Generated.skel_handleCorrectableCall = Skeletons.expected_skel_handleCorrectableCall := by rfl
theorem skel_Multicast_unchanged : Generated.skel_Multicast = Skeletons.expected_skel_Multicast := by rfl
theorem skel_Unicast_unchanged : Generated.skel_Unicast = Skeletons.expected_skel_Unicast := by rfl
theorem skel_ch_sendMsg_unchanged : Generated.skel_ch_sendMsg = Skeletons.expected_skel_ch_sendMsg := by rfl
theorem skel_ch_reconnect_unchanged : Generated.skel_ch_reconnect = Skeletons.expected_skel_ch_reconnect := by rfl
theorem skel_incompleteCause_unchanged : Generated.skel_incompleteCause = Skeletons.expected_skel_incompleteCause := by rfl

end GorumsV.Tie.C08Skel

section Audit
open GorumsV.Tie.C08Skel
#print axioms skel_ch_enqueue_unchanged
#print axioms skel_RPCCall_unchanged
#print axioms skel_QuorumCall_unchanged
#print axioms skel_handleAsyncCall_unchanged
#print axioms skel_handleCorrectableCall_unchanged
#print axioms skel_Multicast_unchanged
#print axioms skel_Unicast_unchanged
#print axioms skel_ch_sendMsg_unchanged
#print axioms skel_ch_reconnect_unchanged
#print axioms skel_incompleteCause_unchanged
end Audit
