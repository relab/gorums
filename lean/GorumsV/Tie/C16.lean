import GorumsV.Props.C16
import GorumsV.Generated.GenTable
import GorumsV.Generated.GenPairs
/-!
  Tie for C16: the table `Generated.genTable` is produced on every run by executing the real
  plugin (built from the working tree) on all 1 024 single-method services, several times each
  (gentool `gr table`).  `table_is_model` — checked by the kernel, row by row — says that the
  model `Gen` predicts every row: acceptance or the diagnostic's class, byte-identical output on
  every run, exactly the predicted client stub, no duplicate declaration, the server handler
  shape, the quorum-function entry, per-node wiring and the method-name strings (the method of a
  row has a proto name, `foo_bar`, that differs from its Go name).

  `Generated.genPairs` (gentool `gr pairs`) is produced by plugin invocations with TWO files to
  generate, whose services have a method of the same name: an accepted row first, then row `b` —
  every rejected row and a sample of accepted ones.  `pairs_is_model` says that the decision about
  `b` is the model's decision about `b` alone, and that an accepted `b` yields byte-identical code:
  the generator's behaviour on a request is its behaviour per method.
-/
namespace GorumsV.Tie.C16
open GorumsV.Gen GorumsV.Generated

def rowOpts (r : GenRow) : Opts :=
  ⟨r.rpc, r.unicast, r.multicast, r.quorumcall, r.correctable, r.async, r.perNode, r.custom, r.clientStream, r.serverStream⟩

/-- does the model predict what the plugin did on this row -/
def rowOK (r : GenRow) : Bool :=
  match validate (rowOpts r) with
  | some cls => r.outcome == "diag" && r.diagClass == cls && r.deterministic
  | none =>
    r.outcome == "ok" && r.deterministic && r.files == 1 && r.stubs == stubs (rowOpts r) && r.dupDecls == 0 &&
    r.serverShape == serverShape (rowOpts r) && r.hasQF == hasQF (rowOpts r) && r.methodStrOK &&
    r.perNodeSet == perNodeSet (rowOpts r)

/-- the table has one row per option combination, in id order -/
def idOf (o : Opts) : Nat :=
  b2n o.rpc + 2 * b2n o.unicast + 4 * b2n o.multicast + 8 * b2n o.quorumcall + 16 * b2n o.correctable + 32 * b2n o.async +
  64 * b2n o.perNode + 128 * b2n o.custom + 256 * b2n o.clientStream + 512 * b2n o.serverStream

theorem table_complete : (genTable.map (fun r => idOf (rowOpts r))) = List.range 1024 := by decide +kernel

/-- **the model is the generator, on the whole lattice** -/
theorem table_is_model : genTable.all rowOK = true := by decide +kernel

/-- what the table says without the model (evaluated on its own, not derived from `table_is_model`): on every option
    combination the real plugin terminates with a diagnostic or with byte-identical output holding exactly one client
    stub and no duplicate declaration -/
theorem plugin_total_and_deterministic :
    genTable.all (fun r => (r.outcome == "diag" || (r.outcome == "ok" && r.dupDecls == 0 && r.stubs.length == 1)) && r.deterministic) = true := by
  decide +kernel

/-- the options of the row with this id (inverse of `idOf`) -/
def optsOfId (n : Nat) : Opts :=
  ⟨n % 2 == 1, n / 2 % 2 == 1, n / 4 % 2 == 1, n / 8 % 2 == 1, n / 16 % 2 == 1, n / 32 % 2 == 1,
   n / 64 % 2 == 1, n / 128 % 2 == 1, n / 256 % 2 == 1, n / 512 % 2 == 1⟩

/-- does the model predict what the plugin did with row `b` generated after the accepted first row -/
def pairOK (e : GenPair) : Bool :=
  (validate (optsOfId genPairFirst)).isNone && e.pairOutcome == e.singleOutcome && e.pairClass == e.singleClass && e.sameOutput &&
  match validate (optsOfId e.b) with
  | some cls => e.pairOutcome == "diag" && e.pairClass == cls
  | none => e.pairOutcome == "ok"

/-- **the decision about a method does not depend on the other files of the request** -/
theorem pairs_is_model : genPairs.all pairOK = true := by decide +kernel

/-- the pairs cover every rejected option combination (992 of the 1 024), in id order -/
theorem pairs_cover_rejected :
    (genPairs.filter (fun e => (validate (optsOfId e.b)).isSome)).map (·.b)
      = (List.range 1024).filter (fun n => (validate (optsOfId n)).isSome) := by decide +kernel

end GorumsV.Tie.C16

section Audit
open GorumsV.Tie.C16 GorumsV.C16
#print axioms table_complete
#print axioms table_is_model
#print axioms plugin_total_and_deterministic
#print axioms pairs_is_model
#print axioms pairs_cover_rejected
#print axioms accepted_one_stub
#print axioms accepts_documented
#print axioms accepted_is_documented
#print axioms rejects_illegal
#print axioms stub_is_declared
#print axioms qf_and_pernode
#print axioms service_stub_keys_nodup
end Audit
