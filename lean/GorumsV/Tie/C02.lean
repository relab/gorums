import GorumsV.Props.C02
import GorumsV.Generated.Exprs
import GorumsV.Lemmas.GoETac
/-!
  Tie for C02: the decision expressions found in /repo's working tree
  (Generated/Exprs.lean, rewritten by `gx` on every run) meet the semantic
  specification the theorems of Props/C02.lean need; the theorems are then
  instantiated on the parameters *of the tree*.
-/
namespace GorumsV.Tie.C02
open GorumsV.GoE GorumsV.ReplyLoop

/-- how the atoms of the exhaustion tests are read -/
def envLoop (e r x : Nat) : Env := envOf
  [("len(errs)", .int e), ("len(replies)", .int r),
   ("expectedReplies", .int x), ("state.expectedReplies", .int x)]

/-- the exhaustion test of `QuorumCall`, as found in the tree, is `errs + replies = expected` -/
theorem qc_exhaust_good (e r x : Nat) :
    ev (envLoop e r x) Generated.qc_exhaust = .bool (decide (e + r = x)) := by
  simp [Generated.qc_exhaust, envLoop]
  goe_arith

/-- … and it is evaluated before the first `select` -/
theorem qc_preCheck_good : Generated.qc_preCheck = true := by decide

/-- … and its exhaustion branch reports the context's error when the context has ended (`incompleteCause`) -/
theorem qc_ctxCause_good : Generated.qc_ctxCause = true := by decide

theorem async_exhaust_good (e r x : Nat) :
    ev (envLoop e r x) Generated.async_exhaust = .bool (decide (e + r = x)) := by
  simp [Generated.async_exhaust, envLoop]
  goe_arith

theorem async_preCheck_good : Generated.async_preCheck = true := by decide

theorem async_ctxCause_good : Generated.async_ctxCause = true := by decide

/-- the parameters of the tree -/
def P_qc : Params :=
  { exhausted := fun e r x => ev (envLoop e r x) Generated.qc_exhaust == .bool true
    preCheck := Generated.qc_preCheck
    ctxCause := Generated.qc_ctxCause }
def P_async : Params :=
  { exhausted := fun e r x => ev (envLoop e r x) Generated.async_exhaust == .bool true
    preCheck := Generated.async_preCheck
    ctxCause := Generated.async_ctxCause }

theorem P_qc_good : P_qc.Good :=
  ⟨fun e r x => by simp [P_qc, qc_exhaust_good], qc_preCheck_good, qc_ctxCause_good⟩

theorem P_async_good : P_async.Good :=
  ⟨fun e r x => by simp [P_async, async_exhaust_good], async_preCheck_good, async_ctxCause_good⟩

variable {M E R : Type}

theorem tree_qc_spec (qf : RepMap M → R × Bool) (x : Nat) (as : List (Arrival M E)) :
    (run P_qc qf x as).1 = C02.spec P_qc qf x as := C02.run_eq_spec _ _ _ _
theorem tree_qc_accounting (qf : RepMap M → R × Bool) (x : Nat) (as : List (Arrival M E)) errs n
    (h : (run P_qc qf x as).1 = .incomplete errs n) : errs.length + n = x :=
  C02.incomplete_accounting _ P_qc_good _ _ _ _ _ h
theorem tree_qc_zero (qf : RepMap M → R × Bool) (as : List (Arrival M E)) :
    (run P_qc qf 0 as).1 = (match as with | .ctxDone c :: _ => .ctxErr c [] 0 | _ => .incomplete [] 0) :=
  C02.zero_targets _ P_qc_good _ _
theorem tree_qc_zero_not_waiting (qf : RepMap M → R × Bool) (as : List (Arrival M E)) :
    (run P_qc qf 0 as).1 ≠ .waiting := C02.zero_targets_not_waiting _ P_qc_good _ _
theorem tree_qc_exhaustion (qf : RepMap M → R × Bool) (x : Nat) (pre post : List (Arrival M E)) errs n
    (hpre : ∀ p ∈ prefixes pre, p ≠ pre → C02.verdict P_qc qf x p = none)
    (hv : C02.verdict P_qc qf x pre = some (.incomplete errs n)) :
    (run P_qc qf x (pre ++ post)).1 =
      (match post with | .ctxDone c :: _ => .ctxErr c errs n | _ => .incomplete errs n) :=
  C02.exhaustion_outcome _ P_qc_good _ _ _ _ _ _ hpre hv
theorem tree_async_accounting (qf : RepMap M → R × Bool) (x : Nat) (as : List (Arrival M E)) errs n
    (h : (run P_async qf x as).1 = .incomplete errs n) : errs.length + n = x :=
  C02.incomplete_accounting _ P_async_good _ _ _ _ _ h
theorem tree_async_zero (qf : RepMap M → R × Bool) (as : List (Arrival M E)) :
    (run P_async qf 0 as).1 = (match as with | .ctxDone c :: _ => .ctxErr c [] 0 | _ => .incomplete [] 0) :=
  C02.zero_targets _ P_async_good _ _
theorem tree_async_zero_not_waiting (qf : RepMap M → R × Bool) (as : List (Arrival M E)) :
    (run P_async qf 0 as).1 ≠ .waiting := C02.zero_targets_not_waiting _ P_async_good _ _
theorem tree_async_exhaustion (qf : RepMap M → R × Bool) (x : Nat) (pre post : List (Arrival M E)) errs n
    (hpre : ∀ p ∈ prefixes pre, p ≠ pre → C02.verdict P_async qf x p = none)
    (hv : C02.verdict P_async qf x pre = some (.incomplete errs n)) :
    (run P_async qf x (pre ++ post)).1 =
      (match post with | .ctxDone c :: _ => .ctxErr c errs n | _ => .incomplete errs n) :=
  C02.exhaustion_outcome _ P_async_good _ _ _ _ _ _ hpre hv

/-! `QuorumCallError.Is` -/

/-- targets of `errors.Is`: a plain error value or a QuorumCallError with a cause -/
inductive Target | plain (c : Nat) | qce (c : Nat)

def envIs (cause : Nat) : Target → Env
  | .plain c => envOf [("istype(target,QuorumCallError)", .bool false), ("e.cause", .ref cause), ("target", .ref c)]
  | .qce c => envOf [("istype(target,QuorumCallError)", .bool true), ("e.cause", .ref cause), ("t.cause", .ref c),
                     ("target", .bad)]

/-- `Is` matches exactly the same cause, bare or wrapped -/
theorem qce_is_good (cause : Nat) (t : Target) :
    ev (envIs cause t) Generated.qce_is = .bool (match t with | .plain c => cause == c | .qce c => cause == c) := by
  cases t <;> simp [Generated.qce_is, envIs]

end GorumsV.Tie.C02

section Audit
open GorumsV.Tie.C02 GorumsV.C02
#print axioms qc_exhaust_good
#print axioms qc_preCheck_good
#print axioms qc_ctxCause_good
#print axioms async_exhaust_good
#print axioms async_preCheck_good
#print axioms async_ctxCause_good
#print axioms P_qc_good
#print axioms P_async_good
#print axioms qce_is_good
#print axioms tree_qc_spec
#print axioms tree_qc_accounting
#print axioms tree_qc_zero
#print axioms tree_qc_zero_not_waiting
#print axioms tree_qc_exhaustion
#print axioms tree_async_accounting
#print axioms tree_async_zero
#print axioms tree_async_zero_not_waiting
#print axioms tree_async_exhaustion
#print axioms run_eq_spec
#print axioms verdict_none_iff
#print axioms verdict_ne_waiting
#print axioms waiting_iff
#print axioms incomplete_accounting
#print axioms zero_targets
#print axioms zero_targets_not_waiting
#print axioms zero_targets_needs_precheck
#print axioms ctx_outcome
#print axioms exhaustion_outcome
#print axioms exhaustion_needs_ctxCause
#print axioms ok_outcome
#print axioms async_same_as_sync
#print axioms async_done_iff
#print axioms async_get_stable
end Audit
