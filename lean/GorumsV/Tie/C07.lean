import GorumsV.Props.C07
import GorumsV.Props.C05
import GorumsV.Props.C13
import GorumsV.Tie.C01
import GorumsV.Tie.C09
import GorumsV.Props.NetFail
/-!
  Tie for C07 (loop-level half): the tree's loops treat an arrival as a failure iff it
  carries an error (Tie/C01), the loop parameters are the good ones (Tie/C02), and a failed
  connection is reported with the Unavailable class.  (Digest obligations: Tie/C07Skel.lean;
  the status round trip is C13's `status_roundtrip`.)
-/
namespace GorumsV.Tie.C07
open GorumsV.ReplyLoop

variable {M E R : Type}
theorem tree_tolerates_failures (qf : RepMap M → R × Bool) (x : Nat)
    (pre post : List (Arrival M E)) (n : NodeId) (m : M)
    (hlen : pre.length < x) (hctx : ∀ c, Arrival.ctxDone c ∉ pre)
    (hnoq : ∀ p ∈ prefixes pre, C01.endsInReply p = true → (qf (replySet p)).2 = false)
    (hq : (qf (replySet (pre ++ [.reply n m]))).2 = true) :
    (run Tie.C02.P_qc qf x (pre ++ .reply n m :: post)).1 = .ok (qf (replySet (pre ++ [.reply n m]))).1 :=
  C07.tolerates_failures _ Tie.C02.P_qc_good _ _ _ _ _ _ hlen hctx hnoq hq

end GorumsV.Tie.C07

section Audit
open GorumsV.Tie.C07 GorumsV.C07
#print axioms GorumsV.NetP.net_at_most_one_error
#print axioms GorumsV.NetP.net_error_is_last
#print axioms GorumsV.NetP.chan_reachable
#print axioms tree_tolerates_failures
#print axioms GorumsV.Tie.C01.qc_errGuard_good
#print axioms GorumsV.Tie.C01.async_errGuard_good
#print axioms errsOf_mem
#print axioms errsOf_length
#print axioms error_not_in_replies
#print axioms reported_errors
#print axioms answered_le
#print axioms tolerates_failures
#print axioms incomplete_lists_failures
#print axioms ctxErr_lists_failures
#print axioms exhaustion_ctxErr_lists_failures
#print axioms GorumsV.C05.at_most_one_error
#print axioms GorumsV.Tie.C09.replacement_good
#print axioms GorumsV.C09.lost_is_cancelled
#print axioms GorumsV.C05.error_is_last
#print axioms GorumsV.C13.status_roundtrip
#print axioms GorumsV.C13.status_plain
end Audit
