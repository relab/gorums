import GorumsV.Generated.Skel
import GorumsV.Model.Skeletons
/-! Written by scripts/mk_tie_skel.py (run by hand when the lists change; the output is committed).  Digest obligations of C10:
    the functions its model was written from are unchanged in the tree (tier T2). -/
namespace GorumsV.Tie.C10Skel

theorem skel_ch_connect_unchanged : Generated.skel_ch_connect = Skeletons.expected_skel_ch_connect := by rfl
theorem skel_ch_reconnect_unchanged : Generated.skel_ch_reconnect = Skeletons.expected_skel_ch_reconnect := by rfl
theorem skel_ch_newNodeStream_unchanged : Generated.skel_ch_newNodeStream = Skeletons.expected_skel_ch_newNodeStream := by rfl
theorem skel_ch_receiver_unchanged : Generated.skel_ch_receiver = Skeletons.expected_skel_ch_receiver := by rfl
theorem skel_ch_sender_unchanged : Generated.skel_ch_sender = Skeletons.expected_skel_ch_sender := by rfl
theorem skel_ch_newChannel_unchanged : Generated.skel_ch_newChannel = Skeletons.expected_skel_ch_newChannel := by rfl
theorem skel_node_RawNode_newContext_unchanged : Generated.skel_node_RawNode_newContext = Skeletons.expected_skel_node_RawNode_newContext := by rfl
theorem skel_node_RawNode_dial_unchanged : Generated.skel_node_RawNode_dial = Skeletons.expected_skel_node_RawNode_dial := by rfl
theorem skel_node_RawNode_connect_unchanged : Generated.skel_node_RawNode_connect = Skeletons.expected_skel_node_RawNode_connect := by rfl
theorem skel_srv_NodeStream_unchanged : Generated.skel_srv_NodeStream = Skeletons.expected_skel_srv_NodeStream := by rfl

end GorumsV.Tie.C10Skel

section Audit
open GorumsV.Tie.C10Skel
#print axioms skel_ch_connect_unchanged
#print axioms skel_ch_reconnect_unchanged
#print axioms skel_ch_newNodeStream_unchanged
#print axioms skel_ch_receiver_unchanged
#print axioms skel_ch_sender_unchanged
#print axioms skel_ch_newChannel_unchanged
#print axioms skel_node_RawNode_newContext_unchanged
#print axioms skel_node_RawNode_dial_unchanged
#print axioms skel_node_RawNode_connect_unchanged
#print axioms skel_srv_NodeStream_unchanged
end Audit
