import GorumsV.Generated.Skel
import GorumsV.Model.Skeletons
/-! Written by scripts/mk_tie_skel.py (run by hand when the lists change; the output is committed).  Digest obligations of C07:
    the functions its model was written from are unchanged in the tree (tier T2). -/
namespace GorumsV.Tie.C07Skel

theorem skel_ch_sender_unchanged : Generated.skel_ch_sender = Skeletons.expected_skel_ch_sender := by rfl
theorem skel_ch_receiver_unchanged : Generated.skel_ch_receiver = Skeletons.expected_skel_ch_receiver := by rfl
theorem skel_ch_cancelPendingMsgs_unchanged : Generated.skel_ch_cancelPendingMsgs = Skeletons.expected_skel_ch_cancelPendingMsgs := by rfl
theorem skel_ch_connect_unchanged : Generated.skel_ch_connect = Skeletons.expected_skel_ch_connect := by rfl
theorem skel_ch_reconnect_unchanged : Generated.skel_ch_reconnect = Skeletons.expected_skel_ch_reconnect := by rfl
theorem skel_ch_routeResponse_unchanged : Generated.skel_ch_routeResponse = Skeletons.expected_skel_ch_routeResponse := by rfl
theorem skel_QuorumCall_unchanged : Generated.skel_QuorumCall = Skeletons.expected_skel_QuorumCall := by rfl
theorem skel_handleAsyncCall_unchanged : Generated.skel_handleAsyncCall = Skeletons.expected_skel_handleAsyncCall := by rfl
theorem skel_QCEError_unchanged : Generated.skel_QCEError = Skeletons.expected_skel_QCEError := by rfl
theorem skel_nodeErrorError_unchanged : Generated.skel_nodeErrorError = Skeletons.expected_skel_nodeErrorError := by rfl
theorem skel_WrapMessage_unchanged : Generated.skel_WrapMessage = Skeletons.expected_skel_WrapMessage := by rfl

end GorumsV.Tie.C07Skel

section Audit
open GorumsV.Tie.C07Skel
#print axioms skel_ch_sender_unchanged
#print axioms skel_ch_receiver_unchanged
#print axioms skel_ch_cancelPendingMsgs_unchanged
#print axioms skel_ch_connect_unchanged
#print axioms skel_ch_reconnect_unchanged
#print axioms skel_ch_routeResponse_unchanged
#print axioms skel_QuorumCall_unchanged
#print axioms skel_handleAsyncCall_unchanged
#print axioms skel_QCEError_unchanged
#print axioms skel_nodeErrorError_unchanged
#print axioms skel_WrapMessage_unchanged
end Audit
