import GorumsV.Generated.Skel
import GorumsV.Model.Skeletons
/-! Written by scripts/mk_tie_skel.py (run by hand when the lists change; the output is committed).  Digest obligations of C09:
    the functions its model was written from are unchanged in the tree (tier T2). -/
namespace GorumsV.Tie.C09Skel

theorem skel_ch_newNodeStream_unchanged : Generated.skel_ch_newNodeStream = Skeletons.expected_skel_ch_newNodeStream := by rfl
theorem skel_ch_enqueue_unchanged : Generated.skel_ch_enqueue = Skeletons.expected_skel_ch_enqueue := by rfl
theorem skel_ch_routeResponse_unchanged : Generated.skel_ch_routeResponse = Skeletons.expected_skel_ch_routeResponse := by rfl
theorem skel_ch_cancelPendingMsgs_unchanged : Generated.skel_ch_cancelPendingMsgs = Skeletons.expected_skel_ch_cancelPendingMsgs := by rfl
theorem skel_ch_deleteRouter_unchanged : Generated.skel_ch_deleteRouter = Skeletons.expected_skel_ch_deleteRouter := by rfl
theorem skel_ch_sendMsg_unchanged : Generated.skel_ch_sendMsg = Skeletons.expected_skel_ch_sendMsg := by rfl
theorem skel_ch_sender_unchanged : Generated.skel_ch_sender = Skeletons.expected_skel_ch_sender := by rfl
theorem skel_ch_receiver_unchanged : Generated.skel_ch_receiver = Skeletons.expected_skel_ch_receiver := by rfl
theorem skel_ch_connect_unchanged : Generated.skel_ch_connect = Skeletons.expected_skel_ch_connect := by rfl
theorem skel_ch_reconnect_unchanged : Generated.skel_ch_reconnect = Skeletons.expected_skel_ch_reconnect := by rfl
theorem skel_ch_isConnected_unchanged : Generated.skel_ch_isConnected = Skeletons.expected_skel_ch_isConnected := by rfl
theorem skel_handleCorrectableCall_unchanged : Generated.skel_handleCorrectableCall = Skeletons.expected_skel_handleCorrectableCall := by rfl

end GorumsV.Tie.C09Skel

section Audit
open GorumsV.Tie.C09Skel
#print axioms skel_ch_newNodeStream_unchanged
#print axioms skel_ch_enqueue_unchanged
#print axioms skel_ch_routeResponse_unchanged
#print axioms skel_ch_cancelPendingMsgs_unchanged
#print axioms skel_ch_deleteRouter_unchanged
#print axioms skel_ch_sendMsg_unchanged
#print axioms skel_ch_sender_unchanged
#print axioms skel_ch_receiver_unchanged
#print axioms skel_ch_connect_unchanged
#print axioms skel_ch_reconnect_unchanged
#print axioms skel_ch_isConnected_unchanged
#print axioms skel_handleCorrectableCall_unchanged
end Audit
