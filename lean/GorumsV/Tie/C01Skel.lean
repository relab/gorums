import GorumsV.Generated.Skel
import GorumsV.Model.Skeletons
/-! Written by scripts/mk_tie_skel.py (run by hand when the lists change; the output is committed).  Digest obligations of C01:
    the functions its model was written from are unchanged in the tree (tier T2). -/
namespace GorumsV.Tie.C01Skel

theorem skel_QuorumCall_unchanged : Generated.skel_QuorumCall = Skeletons.expected_skel_QuorumCall := by rfl
theorem skel_AsyncCall_unchanged : Generated.skel_AsyncCall = Skeletons.expected_skel_AsyncCall := by rfl
theorem skel_handleAsyncCall_unchanged : Generated.skel_handleAsyncCall = Skeletons.expected_skel_handleAsyncCall := by rfl
theorem skel_AsyncGet_unchanged : Generated.skel_AsyncGet = Skeletons.expected_skel_AsyncGet := by rfl
theorem skel_AsyncDone_unchanged : Generated.skel_AsyncDone = Skeletons.expected_skel_AsyncDone := by rfl
theorem skel_tmplfile_quorumcall_unchanged : Generated.skel_tmplfile_quorumcall = Skeletons.expected_skel_tmplfile_quorumcall := by rfl
theorem skel_tmplfile_async_unchanged : Generated.skel_tmplfile_async = Skeletons.expected_skel_tmplfile_async := by rfl
theorem skel_tmplfile_datatypes_unchanged : Generated.skel_tmplfile_datatypes = Skeletons.expected_skel_tmplfile_datatypes := by rfl
theorem skel_tmplfile_qspec_unchanged : Generated.skel_tmplfile_qspec = Skeletons.expected_skel_tmplfile_qspec := by rfl

end GorumsV.Tie.C01Skel

section Audit
open GorumsV.Tie.C01Skel
#print axioms skel_QuorumCall_unchanged
#print axioms skel_AsyncCall_unchanged
#print axioms skel_handleAsyncCall_unchanged
#print axioms skel_AsyncGet_unchanged
#print axioms skel_AsyncDone_unchanged
#print axioms skel_tmplfile_quorumcall_unchanged
#print axioms skel_tmplfile_async_unchanged
#print axioms skel_tmplfile_datatypes_unchanged
#print axioms skel_tmplfile_qspec_unchanged
end Audit
