import GorumsV.Generated.Skel
import GorumsV.Model.Skeletons
/-! Written by scripts/mk_tie_skel.py (run by hand when the lists change; the output is committed).  Digest obligations of C18:
    the functions its model was written from are unchanged in the tree (tier T2). -/
namespace GorumsV.Tie.C18Skel

theorem skel_ch_routeResponse_unchanged : Generated.skel_ch_routeResponse = Skeletons.expected_skel_ch_routeResponse := by rfl
theorem skel_ch_enqueue_unchanged : Generated.skel_ch_enqueue = Skeletons.expected_skel_ch_enqueue := by rfl
theorem skel_ch_deleteRouter_unchanged : Generated.skel_ch_deleteRouter = Skeletons.expected_skel_ch_deleteRouter := by rfl
theorem skel_ch_cancelPendingMsgs_unchanged : Generated.skel_ch_cancelPendingMsgs = Skeletons.expected_skel_ch_cancelPendingMsgs := by rfl
theorem skel_ch_sendMsg_unchanged : Generated.skel_ch_sendMsg = Skeletons.expected_skel_ch_sendMsg := by rfl
theorem skel_ch_receiver_unchanged : Generated.skel_ch_receiver = Skeletons.expected_skel_ch_receiver := by rfl
theorem skel_ch_reconnect_unchanged : Generated.skel_ch_reconnect = Skeletons.expected_skel_ch_reconnect := by rfl
theorem skel_handleAsyncCall_unchanged : Generated.skel_handleAsyncCall = Skeletons.expected_skel_handleAsyncCall := by rfl
theorem skel_handleCorrectableCall_unchanged : Generated.skel_handleCorrectableCall = Skeletons.expected_skel_handleCorrectableCall := by rfl
theorem skel_QuorumCall_unchanged : Generated.skel_QuorumCall = Skeletons.expected_skel_QuorumCall := by rfl

end GorumsV.Tie.C18Skel

section Audit
open GorumsV.Tie.C18Skel
#print axioms skel_ch_routeResponse_unchanged
#print axioms skel_ch_enqueue_unchanged
#print axioms skel_ch_deleteRouter_unchanged
#print axioms skel_ch_cancelPendingMsgs_unchanged
#print axioms skel_ch_sendMsg_unchanged
#print axioms skel_ch_receiver_unchanged
#print axioms skel_ch_reconnect_unchanged
#print axioms skel_handleAsyncCall_unchanged
#print axioms skel_handleCorrectableCall_unchanged
#print axioms skel_QuorumCall_unchanged
end Audit
