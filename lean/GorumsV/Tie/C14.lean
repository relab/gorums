import GorumsV.Props.C14
import GorumsV.Generated.Skel
import GorumsV.Model.Skeletons
/-!
  Tie for C14: the constructors the model `GorumsV.Config` mirrors path by path are
  unchanged (normalised-body digests, regenerated from the tree on every run); the
  behaviour of the model is compared with the real code on every run by engine `cfg`.
-/
namespace GorumsV.Tie.C14

theorem skel_nodeIDMap_good : Generated.skel_cfg_nodeIDMap_newConfig = Skeletons.expected_skel_cfg_nodeIDMap_newConfig := by rfl
theorem skel_nodeList_good : Generated.skel_cfg_nodeList_newConfig = Skeletons.expected_skel_cfg_nodeList_newConfig := by rfl
theorem skel_nodeIDs_good : Generated.skel_cfg_nodeIDs_newConfig = Skeletons.expected_skel_cfg_nodeIDs_newConfig := by rfl
theorem skel_addNodes_good : Generated.skel_cfg_addNodes_newConfig = Skeletons.expected_skel_cfg_addNodes_newConfig := by rfl
theorem skel_addConfig_good : Generated.skel_cfg_addConfig_newConfig = Skeletons.expected_skel_cfg_addConfig_newConfig := by rfl
theorem skel_And_good : Generated.skel_cfg_RawConfiguration_And = Skeletons.expected_skel_cfg_RawConfiguration_And := by rfl
theorem skel_WithoutNodes_good : Generated.skel_cfg_RawConfiguration_WithoutNodes = Skeletons.expected_skel_cfg_RawConfiguration_WithoutNodes := by rfl
theorem skel_Except_good : Generated.skel_cfg_RawConfiguration_Except = Skeletons.expected_skel_cfg_RawConfiguration_Except := by rfl
theorem skel_WithNewNodes_good : Generated.skel_cfg_RawConfiguration_WithNewNodes = Skeletons.expected_skel_cfg_RawConfiguration_WithNewNodes := by rfl
theorem skel_NewRawConfiguration_good : Generated.skel_cfg_NewRawConfiguration = Skeletons.expected_skel_cfg_NewRawConfiguration := by rfl
theorem skel_NodeIDs_good : Generated.skel_cfg_RawConfiguration_NodeIDs = Skeletons.expected_skel_cfg_RawConfiguration_NodeIDs := by rfl
theorem skel_Nodes_good : Generated.skel_cfg_RawConfiguration_Nodes = Skeletons.expected_skel_cfg_RawConfiguration_Nodes := by rfl
theorem skel_Size_good : Generated.skel_cfg_RawConfiguration_Size = Skeletons.expected_skel_cfg_RawConfiguration_Size := by rfl
theorem skel_Equal_good : Generated.skel_cfg_RawConfiguration_Equal = Skeletons.expected_skel_cfg_RawConfiguration_Equal := by rfl
theorem skel_AddNode_good : Generated.skel_mgr_RawManager_AddNode = Skeletons.expected_skel_mgr_RawManager_AddNode := by rfl
theorem skel_mgrNode_good : Generated.skel_mgr_RawManager_Node = Skeletons.expected_skel_mgr_RawManager_Node := by rfl
theorem skel_mgrNodes_good : Generated.skel_mgr_RawManager_Nodes = Skeletons.expected_skel_mgr_RawManager_Nodes := by rfl
theorem skel_mgrNodeIDs_good : Generated.skel_mgr_RawManager_NodeIDs = Skeletons.expected_skel_mgr_RawManager_NodeIDs := by rfl
theorem skel_NewRawNode_good : Generated.skel_node_NewRawNode = Skeletons.expected_skel_node_NewRawNode := by rfl
theorem skel_NewRawNodeWithID_good : Generated.skel_node_NewRawNodeWithID = Skeletons.expected_skel_node_NewRawNodeWithID := by rfl
theorem skel_devNewConfiguration_good : Generated.skel_dev_NewConfiguration = Skeletons.expected_skel_dev_NewConfiguration := by rfl
theorem skel_devNodes_good : Generated.skel_dev_Nodes = Skeletons.expected_skel_dev_Nodes := by rfl
theorem skel_devConfigurationFromRaw_good : Generated.skel_dev_ConfigurationFromRaw = Skeletons.expected_skel_dev_ConfigurationFromRaw := by rfl
theorem skel_devAnd_good : Generated.skel_dev_And = Skeletons.expected_skel_dev_And := by rfl
theorem skel_devExcept_good : Generated.skel_dev_Except = Skeletons.expected_skel_dev_Except := by rfl

end GorumsV.Tie.C14

section Audit
open GorumsV.Tie.C14 GorumsV.C14
#print axioms skel_nodeIDMap_good
#print axioms skel_nodeList_good
#print axioms skel_nodeIDs_good
#print axioms skel_addNodes_good
#print axioms skel_addConfig_good
#print axioms skel_And_good
#print axioms skel_WithoutNodes_good
#print axioms skel_Except_good
#print axioms skel_WithNewNodes_good
#print axioms skel_NewRawConfiguration_good
#print axioms skel_NodeIDs_good
#print axioms skel_Nodes_good
#print axioms skel_Size_good
#print axioms skel_Equal_good
#print axioms skel_AddNode_good
#print axioms skel_mgrNode_good
#print axioms skel_mgrNodes_good
#print axioms skel_mgrNodeIDs_good
#print axioms skel_NewRawNode_good
#print axioms skel_NewRawNodeWithID_good
#print axioms skel_devNewConfiguration_good
#print axioms skel_devNodes_good
#print axioms skel_devConfigurationFromRaw_good
#print axioms skel_devAnd_good
#print axioms skel_devExcept_good
#print axioms poolOK_empty
#print axioms mem_sortId
#print axioms sortId_sorted
#print axioms nodeList_ok
#print axioms nodeMap_ok
#print axioms nodeIDs_ok
#print axioms addConfig_ok
#print axioms addConfig_mem
#print axioms nodeIDs_mem
#print axioms nodeIDs_error_iff
#print axioms withoutNodes_mem
#print axioms withoutNodes_empty
#print axioms exceptCfg_mem
#print axioms nodeList_addrs
#print axioms nodeList_collision_fails
#print axioms nodeMap_bindings
#print axioms fnv_collision
end Audit
