import GorumsV.Props.C17
import GorumsV.Tie.C16
import GorumsV.Generated.StubsReport
/-!
  Tie for C17: `Generated.StubsReport` is written on every run by gentool `gr stubs`: every
  committed `*_gorums.pb.go` and the bundled static template are regenerated with the plugin
  built from the working tree (descriptors taken from the committed `*.pb.go`) and compared
  after normalisation (comments dropped, gofmt); from every regenerated file the per-method
  bindings (method-name string of the client stub and of the server registration, runtime
  entry point, per-node wiring, quorum-function signature, handler shape) are extracted and
  compared with what the descriptor declares.
-/
namespace GorumsV.Tie.C17
open GorumsV.Generated

/-- **every committed generated file equals what the current templates produce** -/
theorem committed_equals_regenerated : stubFiles.all (fun f => f.2) = true := by decide +kernel

/-- no committed generated file escaped the comparison, and there is something to compare -/
theorem all_files_covered : filesWithoutDescriptor = 0 ∧ 0 < stubFiles.length := by decide

/-- **every method of every service of the repository is bound as declared** -/
theorem bindings_match : bindingMismatches = 0 ∧ 0 < bindingsChecked := by decide

end GorumsV.Tie.C17

section Audit
open GorumsV.Tie.C17 GorumsV.C17
#print axioms committed_equals_regenerated
#print axioms all_files_covered
#print axioms bindings_match
#print axioms GorumsV.Tie.C16.table_is_model
#print axioms stub_kind
#print axioms server_shape_matches
#print axioms qf_and_pernode
end Audit
