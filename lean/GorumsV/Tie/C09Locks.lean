import GorumsV.Props.SitesP
import GorumsV.Model.LockOrder
import GorumsV.Props.LockOrderP
import GorumsV.Generated.Exprs
/-!
  Further obligations of C09 (elaborated on their own, imported by nothing): the lock order and the blocking sites under
  locks, computed from the table that gx regenerates from the tree on every run (lock-set walk over every function of
  channel.go, node.go, mgr.go, correctable.go, server.go).
-/
namespace GorumsV.Tie.C09Locks

def blockRows : List LockOrder.Row := Generated.blockTable.map fun r => ⟨r.fn, r.kind, r.arg, r.locks, r.modes⟩
/-- the client runtime (the server's handler mutex is a hand-over signal between goroutines, modelled in `SrvConn`) -/
def clientRows : List LockOrder.Row := blockRows.filter (fun r => r.fn != "orderingServer.NodeStream")

/-- the lock order of the client runtime is exactly: `responseMut` and the channel's `mu` are taken under `streamMut`
    (reconnect → cancelPendingMsgs; sendMsg → markWritten / setLastErr) and nothing else nests — as in `ConnMgr`, where
    `responseMut` is held together with `streamMut` only in the `cancelPendingMsgs` of `reconnect` (location `rcBlocked`:
    the write lock first, then `responseMut`) -/
theorem lockOrder_good : LockOrder.edges clientRows 3 = [("streamMut", "responseMut"), ("streamMut", "mu:channel")] := by
  decide +kernel
/-- … calls deeper than three levels add nothing -/
theorem lockOrder_depth : LockOrder.edges clientRows 5 = LockOrder.edges clientRows 3 := by decide +kernel
/-- … and it has no cycle: no deadlock among the critical sections themselves; what remains are blocking operations
    inside critical sections -/
theorem lockOrder_acyclic : LockOrder.acyclic (LockOrder.edges clientRows 3) 8 = true := by
  rw [lockOrder_good]
  decide

/-- **every place where the tree can block while it holds a lock is a step of the models** (`ConnMgr`, `NodeConn`,
    `SrvConn`): the wedge analysis of C09 (`wedge_shapes`) is complete with respect to the code's blocking sites -/
theorem blocking_sites_modelled :
    ∀ s ∈ LockOrder.blockingUnderLock blockRows, s ∈ LockOrder.modelledSites.map (·.1) := by decide +kernel
/-- … and every modelled site is still in the tree (no stale entry) -/
theorem modelled_sites_exist :
    ∀ s ∈ LockOrder.modelledSites.map (·.1), s.2.1 = "lock" ∨ s ∈ LockOrder.blockingUnderLock blockRows := by decide +kernel

/-- what the evaluated check means for the tree's lock order: no walk of up to nine edges along it returns to its start
    (the order has two edges: every cycle is excluded) -/
theorem lockOrder_no_cycle (n : String) (k : Nat) (hk : k ≤ 9) :
    ¬ LockOrderP.Walk (LockOrder.edges clientRows 3) k n n :=
  LockOrderP.acyclic_no_short_cycle _ 8 lockOrder_acyclic n k hk

end GorumsV.Tie.C09Locks

section Audit
open GorumsV.Tie.C09Locks
#print axioms lockOrder_good
#print axioms lockOrder_depth
#print axioms lockOrder_acyclic
#print axioms lockOrder_no_cycle
#print axioms GorumsV.LockOrderP.acyclic_no_short_cycle
#print axioms GorumsV.LockOrderP.walk_in_reach
#print axioms blocking_sites_modelled
#print axioms modelled_sites_exist
#print axioms GorumsV.SitesP.recvMsg_under_read
#print axioms GorumsV.SitesP.sendMsg_under_read
#print axioms GorumsV.SitesP.reconnect_under_write_sender
#print axioms GorumsV.SitesP.reconnect_under_write_receiver
#print axioms GorumsV.SitesP.writer_not_reading
#print axioms GorumsV.SitesP.streamMutSites_listed
end Audit
