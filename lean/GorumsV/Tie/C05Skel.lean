import GorumsV.Generated.Skel
import GorumsV.Model.Skeletons
/-! Written by scripts/mk_tie_skel.py (run by hand when the lists change; the output is committed).  Digest obligations of C05:
    the functions its model was written from are unchanged in the tree (tier T2). -/
namespace GorumsV.Tie.C05Skel

theorem skel_ch_enqueue_unchanged : Generated.skel_ch_enqueue = Skeletons.expected_skel_ch_enqueue := by rfl
theorem skel_ch_routeResponse_unchanged : Generated.skel_ch_routeResponse = Skeletons.expected_skel_ch_routeResponse := by rfl
theorem skel_ch_cancelPendingMsgs_unchanged : Generated.skel_ch_cancelPendingMsgs = Skeletons.expected_skel_ch_cancelPendingMsgs := by rfl
theorem skel_ch_deleteRouter_unchanged : Generated.skel_ch_deleteRouter = Skeletons.expected_skel_ch_deleteRouter := by rfl
theorem skel_ch_receiver_unchanged : Generated.skel_ch_receiver = Skeletons.expected_skel_ch_receiver := by rfl
theorem skel_mgr_RawManager_getMsgID_unchanged : Generated.skel_mgr_RawManager_getMsgID = Skeletons.expected_skel_mgr_RawManager_getMsgID := by rfl
theorem skel_cfg_RawConfiguration_getMsgID_unchanged : Generated.skel_cfg_RawConfiguration_getMsgID = Skeletons.expected_skel_cfg_RawConfiguration_getMsgID := by rfl
theorem skel_WrapMessage_unchanged : Generated.skel_WrapMessage = Skeletons.expected_skel_WrapMessage := by rfl
theorem skel_RPCCall_unchanged : Generated.skel_RPCCall = Skeletons.expected_skel_RPCCall := by rfl
theorem skel_QuorumCall_unchanged : Generated.skel_QuorumCall = Skeletons.expected_skel_QuorumCall := by rfl
theorem skel_AsyncCall_unchanged : Generated.skel_AsyncCall = Skeletons.expected_skel_AsyncCall := by rfl
theorem skel_CorrectableCall_unchanged : Generated.skel_CorrectableCall = Skeletons.expected_skel_CorrectableCall := by rfl
theorem skel_Multicast_unchanged : Generated.skel_Multicast = Skeletons.expected_skel_Multicast := by rfl
theorem skel_Unicast_unchanged : Generated.skel_Unicast = Skeletons.expected_skel_Unicast := by rfl

end GorumsV.Tie.C05Skel

section Audit
open GorumsV.Tie.C05Skel
#print axioms skel_ch_enqueue_unchanged
#print axioms skel_ch_routeResponse_unchanged
#print axioms skel_ch_cancelPendingMsgs_unchanged
#print axioms skel_ch_deleteRouter_unchanged
#print axioms skel_ch_receiver_unchanged
#print axioms skel_mgr_RawManager_getMsgID_unchanged
#print axioms skel_cfg_RawConfiguration_getMsgID_unchanged
#print axioms skel_WrapMessage_unchanged
#print axioms skel_RPCCall_unchanged
#print axioms skel_QuorumCall_unchanged
#print axioms skel_AsyncCall_unchanged
#print axioms skel_CorrectableCall_unchanged
#print axioms skel_Multicast_unchanged
#print axioms skel_Unicast_unchanged
end Audit
