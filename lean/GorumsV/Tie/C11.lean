import GorumsV.Props.C11
import GorumsV.Generated.Exprs
import GorumsV.Generated.Skel
import GorumsV.Model.Skeletons
import GorumsV.Lemmas.GoETac
import GorumsV.Props.WatchConcP
/-!
  Tie for C11: the decisions of correctable.go, regenerated from the tree on every
  run, are the ones the model `GorumsV.Correctable` was written with.
-/
namespace GorumsV.Tie.C11
open GorumsV.GoE GorumsV.Correctable

/-- the object is created at `LevelNotSet`, and `LevelNotSet` is -1 -/
theorem initLevel_good :
    ev (envOf [("LevelNotSet", ev (envOf []) Generated.corr_LevelNotSet)]) Generated.corr_initLevel = .int LevelNotSet := by
  simp [Generated.corr_initLevel, Generated.corr_LevelNotSet, LevelNotSet]

def envX (stream : Bool) (e r x : Nat) : Env := envOf
  [("state.data.ServerStream", .bool stream), ("len(errs)", .int e), ("len(replies)", .int r), ("state.expectedReplies", .int x)]

/-- the two-armed exhaustion test: streams complete when every node has failed, plain calls
    when every node has answered -/
theorem exhaust_good (stream : Bool) (e r x : Nat) :
    ev (envX stream e r x) Generated.corr_exhaust = .bool (exhausted stream e r x) := by
  cases stream <;> simp [Generated.corr_exhaust, envX, exhausted] <;> goe_arith

/-- … evaluated at the top of the loop (so also with zero targets) -/
theorem preCheck_good : Generated.corr_preCheck = true := by decide

/-- … and its branch reports the context's error when the context has ended (`incompleteCause`), as
    `Correctable.exhaustedErr` does -/
theorem ctxCause_good : Generated.corr_ctxCause = true := by decide

def envW (l cur : Int) (done : Bool) : Env := envOf [("level", .int l), ("c.level", .int cur), ("c.done", .bool done)]

/-- `Watch(level)` is closed at registration iff the level has been reached or the call is completed -/
theorem watchCmp_good (l cur : Int) (done : Bool) :
    ev (envW l cur done) Generated.corr_watchCmp = .bool (decide (l ≤ cur) || done) := by
  simp [Generated.corr_watchCmp, envW]

/-- `Watch` (test and registration) and `set` each run in one exclusive critical section of the object's mutex: they are
    single steps, as in `Correctable.watch` / `Correctable.set` of the model — no publication can fall between a
    watcher's test and its registration -/
theorem atomic_good : Generated.corr_watchAtomic = true ∧ Generated.corr_setAtomic = true := by decide

/-- hence, for every interleaving of Watch calls and publications, no watcher is ever stranded (open although its level has
    been published or the call is completed): the concurrent model `WatchConc` at the tree's atomicity -/
theorem tree_never_stranded (s : WatchConc.St)
    (h : WatchConc.Reachable (Generated.corr_watchAtomic && Generated.corr_setAtomic) s) : WatchConc.stranded s = false := by
  rw [atomic_good.1, atomic_good.2] at h
  exact WatchConcP.atomic_never_stranded s h

def envS (wl l : Int) : Env := envOf [("c.watchers[i]", .ref 1), ("c.watchers[i].level", .int wl), ("level", .int l)]

/-- `set` releases exactly the (still registered) watchers at or below the published level -/
theorem setCmp_good (wl l : Int) :
    ev (envS wl l) Generated.corr_setCmp = .bool (decide (wl ≤ l)) := by
  simp [Generated.corr_setCmp, envS]

/-- the reply case of the loop has the publication structure of `Correctable.stepArrival`:
    store the reply; ask QF; done ⇒ publish QF's value with max(level, published level) and return;
    otherwise a strictly higher level ⇒ publish QF's value with it -/
theorem replyCase_good : Generated.corr_replyCase =
    "if r.err != nil { errs = append(errs, nodeError{nodeID: r.nid, cause: r.err}) break } ; replies[r.nid] = r.msg ; if resp, rlevel, quorum = state.data.QuorumFunction(state.data.Message, replies); quorum { if rlevel < clevel { rlevel = clevel } corr.set(resp, rlevel, nil, true) return } ; if rlevel > clevel { clevel = rlevel corr.set(resp, rlevel, nil, false) }" := by
  rfl

theorem skel_Get_good : Generated.skel_CorrectableGet = Skeletons.expected_skel_CorrectableGet := by rfl
theorem skel_Done_good : Generated.skel_CorrectableDone = Skeletons.expected_skel_CorrectableDone := by rfl
theorem skel_Watch_good : Generated.skel_CorrectableWatch = Skeletons.expected_skel_CorrectableWatch := by rfl
theorem skel_set_good : Generated.skel_CorrectableSet = Skeletons.expected_skel_CorrectableSet := by rfl
theorem skel_CorrectableCall_good : Generated.skel_CorrectableCall = Skeletons.expected_skel_CorrectableCall := by rfl
theorem skel_handleCorrectableCall_good : Generated.skel_handleCorrectableCall = Skeletons.expected_skel_handleCorrectableCall := by rfl

end GorumsV.Tie.C11

section Audit
open GorumsV.Tie.C11 GorumsV.C11
#print axioms initLevel_good
#print axioms exhaust_good
#print axioms preCheck_good
#print axioms ctxCause_good
#print axioms watchCmp_good
#print axioms atomic_good
#print axioms tree_never_stranded
#print axioms GorumsV.WatchConcP.atomic_never_stranded
#print axioms GorumsV.WatchConcP.atomic_open_means_waiting
#print axioms GorumsV.WatchConcP.twostep_strands
#print axioms GorumsV.WatchConcP.twostep_strands_for_good
#print axioms setCmp_good
#print axioms replyCase_good
#print axioms skel_Get_good
#print axioms skel_Done_good
#print axioms skel_Watch_good
#print axioms skel_set_good
#print axioms skel_CorrectableCall_good
#print axioms skel_handleCorrectableCall_good
#print axioms init_unset
#print axioms watchInv_init
#print axioms watch_preserves
#print axioms set_preserves
#print axioms set_none_iff
#print axioms typedGet_total
#print axioms typedGet_init
#print axioms run_never_panics
#print axioms run_levels_monotone
#print axioms run_done_last
#print axioms step_publishes
#print axioms step_no_publish
#print axioms step_done
#print axioms step_ctx
#print axioms run_replies_are_qf_values
#print axioms run_watchInv
#print axioms run_exhausted
#print axioms run_exhausted_incomplete
#print axioms run_exhausted_ctx
#print axioms all_targets_failed
#print axioms stream_exhausted_iff_all_failed
#print axioms pinned_double_error_completes
end Audit
