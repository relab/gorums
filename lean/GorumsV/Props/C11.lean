import GorumsV.Lemmas.Correctable
/-!
  C11 — correctable calls publish QF levels and values monotonically; done is final.

  Statements about the object (`Obj`: Get / Watch / set / typed Get) and about the loop
  (`run`: the snapshots of the object after each consumed arrival).  What the loop publishes is
  described once (`Moves`: one iteration, `Snapshots`: a whole run, `run_snapshots`); the theorems about
  `run` are inductions over that description.
-/
namespace GorumsV.C11
open GorumsV.ReplyLoop GorumsV.Correctable
variable {V E M : Type}

/-- **starts at LevelNotSet with no reply** -/
theorem init_unset : (init : Obj V E).level = LevelNotSet ∧ (init : Obj V E).reply = none ∧
    (init : Obj V E).done = false ∧ (init : Obj V E).err = none := by
  simp [init]

/-- the watcher invariant: a watcher's channel is closed exactly when its level has been
    reached or the call is completed -/
def WatchInv (o : Obj V E) : Prop := ∀ w ∈ o.watchers, (w.closed = true ↔ (w.level ≤ o.level ∨ o.done = true))

theorem watchInv_init : WatchInv (init : Obj V E) := by
  intro w hw
  simp [init] at hw

/-- registering a watcher at any moment keeps the invariant (also after completion) -/
theorem watch_preserves (o : Obj V E) (h : WatchInv o) (l : Int) : WatchInv (o.watch l) := by
  intro w hw
  rcases Obj.watcher_of_watch hw with hw | ⟨rfl, hc⟩
  · exact h w hw
  · exact hc

/-- publishing a level that is not lower than the current one (or completing) keeps the invariant:
    **every Watch at or below the published level is released at once, all of them at completion** -/
theorem set_preserves (o o' : Obj V E) (h : WatchInv o) (r : Option V) (l : Int) (e : Option (CErr E)) (d : Bool)
    (hmono : o.level ≤ l) (hs : o.set r l e d = some o') : WatchInv o' := by
  intro w' hw'
  obtain ⟨w, hw, hl, hc⟩ := Obj.watcher_of_set hs hw'
  obtain ⟨hd, rfl⟩ := Obj.set_eq_some_iff.1 hs
  -- a watcher closed before was at or below the old level: `o` was not completed
  rw [hc, h w hw, hl, hd]
  simp only [Bool.false_eq_true, or_false]
  exact ⟨fun h => h.elim (fun h => .inl (Int.le_trans h hmono)) Or.symm, fun h => .inr h.symm⟩

/-- `set` panics exactly on a completed object -/
theorem set_none_iff (o : Obj V E) (r : Option V) (l : Int) (e : Option (CErr E)) (d : Bool) :
    o.set r l e d = none ↔ o.done = true := by
  cases hd : o.done
  · simp [Obj.set_of_not_done hd]
  · simp [Obj.set_of_done hd]

/-- **typed accessors never panic** as long as what is stored has the accessor's static type -/
theorem typedGet_total (tagOK : V → Bool) (o : Obj V E) (h : ∀ v, o.reply = some v → tagOK v = true) :
    (o.typedGet tagOK).1 ≠ .panic := by
  unfold Obj.typedGet
  cases he : o.err with
  | some e => simp
  | none =>
    cases hr : o.reply with
    | none => simp
    | some v => simp [h v hr]

/-- before any reply the typed accessor returns nil (it does not assert on a nil interface) -/
theorem typedGet_init (tagOK : V → Bool) : ((init : Obj V E).typedGet tagOK).1 = .nil := by
  simp [Obj.typedGet, init]

/-- the loop invariant linking the loop-local level to the published one -/
def Linked (st : LoopSt V E M) (o : Obj V E) : Prop := o.level = st.clevel ∧ o.done = false

/-- **a new highest level is published at once, with the value the quorum function returned,
    without waiting for completion** -/
theorem step_publishes (qf : RepMap M → V × Int × Bool) (stream : Bool) (x : Nat)
    (st : LoopSt V E M) (o : Obj V E) (h : Linked st o) (n : NodeId) (m : M) (v : V) (l : Int)
    (hq : qf (st.replies.insert n m) = (v, l, false)) (hl : st.clevel < l) :
    ∃ st' o', stepArrival qf stream x st o (.reply n m) = some (st', o', false) ∧
      o'.reply = some v ∧ o'.level = l ∧ o'.done = false ∧ o'.err = none ∧ Linked st' o' ∧
      (∀ w ∈ o'.watchers, w.level ≤ l → w.closed = true) := by
  have hs := Obj.set_of_not_done h.2 (some v) l none false
  exact ⟨_, _, by simp only [stepArrival, hq, gt_iff_lt, hl, hs]; rfl, rfl, rfl, rfl, rfl, ⟨rfl, rfl⟩,
    fun w hw hwl => Obj.closed_of_set hs hw (.inr hwl)⟩

/-- a level that is not higher than one reported before changes nothing that is published -/
theorem step_no_publish (qf : RepMap M → V × Int × Bool) (stream : Bool) (x : Nat)
    (st : LoopSt V E M) (o : Obj V E) (n : NodeId) (m : M) (v : V) (l : Int)
    (hq : qf (st.replies.insert n m) = (v, l, false)) (hl : l ≤ st.clevel) :
    ∃ st', stepArrival qf stream x st o (.reply n m) = some (st', o, false) ∧ st'.clevel = st.clevel := by
  have hgt : ¬ l > st.clevel := by omega
  exact ⟨{ st with replies := st.replies.insert n m, resp := some v }, by simp [stepArrival, hq, hgt], rfl⟩

/-- **done**: the value the quorum function returned is published, the level does not decrease,
    every watcher and Done are released -/
theorem step_done (qf : RepMap M → V × Int × Bool) (stream : Bool) (x : Nat)
    (st : LoopSt V E M) (o : Obj V E) (h : Linked st o) (n : NodeId) (m : M) (v : V) (l : Int)
    (hq : qf (st.replies.insert n m) = (v, l, true)) :
    ∃ st' o', stepArrival qf stream x st o (.reply n m) = some (st', o', true) ∧
      o'.reply = some v ∧ o'.done = true ∧ o'.err = none ∧ o.level ≤ o'.level ∧ l ≤ o'.level ∧
      (∀ w ∈ o'.watchers, w.closed = true) := by
  have hs := Obj.set_of_not_done h.2 (some v) (if l < st.clevel then st.clevel else l) none true
  refine ⟨_, _, by simp only [stepArrival, hq, hs]; rfl, rfl, rfl, rfl, ?_, ?_,
    fun w hw => Obj.closed_of_set hs hw (.inl rfl)⟩
  · rw [h.1]; show _ ≤ ite _ _ _; split <;> omega
  · show _ ≤ ite _ _ _; split <;> omega

/-- **context end** completes the call with the context's error; the level is unchanged -/
theorem step_ctx (qf : RepMap M → V × Int × Bool) (stream : Bool) (x : Nat)
    (st : LoopSt V E M) (o : Obj V E) (h : Linked st o) (c : E) :
    ∃ o', stepArrival qf stream x st o (.ctxDone c) = some (st, o', true) ∧ o'.done = true ∧
      o'.level = o.level ∧ o'.err = some (.ctx c st.errs st.replies.length) ∧ (∀ w ∈ o'.watchers, w.closed = true) := by
  have hs := Obj.set_of_not_done h.2 st.resp st.clevel (some (.ctx c st.errs st.replies.length)) true
  exact ⟨_, by simp only [stepArrival, hs]; rfl, rfl, h.1.symm, rfl, fun w hw => Obj.closed_of_set hs hw (.inl rfl)⟩

/-- the published levels, in order -/
def levels (l : List (Option (Obj V E))) : List Int := l.filterMap (fun s => s.map (·.level))

/-- one iteration of the loop (or its exhaustion branch) takes the loop state and the object from `(st, o)` to
    `(st', o')`: either nothing is published, or the loop's last value is, at a level that is not lower; and the
    loop's last value is the one before or a new value of the quorum function -/
structure Moves (qf : RepMap M → V × Int × Bool) (st : LoopSt V E M) (o : Obj V E) (st' : LoopSt V E M) (o' : Obj V E) :
    Prop where
  publish : o' = o ∨ ∃ l e d, o.level ≤ l ∧ o.set st'.resp l e d = some o'
  resp : st'.resp = st.resp ∨ ∃ reps, st'.resp = some (qf reps).1

/-- the lists of snapshots a loop in the linked state `(st, o)` may publish: each snapshot is one move away from
    the one before, and only the last can be a completed one -/
inductive Snapshots (qf : RepMap M → V × Int × Bool) : LoopSt V E M → Obj V E → List (Option (Obj V E)) → Prop
  | nil {st o} : Linked st o → Snapshots qf st o []
  | last {st o st' o'} : Linked st o → Moves qf st o st' o' → o'.done = true → Snapshots qf st o [some o']
  | cons {st o st' o' l} : Linked st o → Moves qf st o st' o' → Snapshots qf st' o' l → Snapshots qf st o (some o' :: l)

section Publishing
variable {qf : RepMap M → V × Int × Bool} {st st' : LoopSt V E M} {o o' : Obj V E}

theorem Moves.level_le (h : Moves qf st o st' o') : o.level ≤ o'.level := by
  rcases h.publish with rfl | ⟨l, e, d, hl, hs⟩
  · exact Int.le_refl _
  · rwa [(Obj.set_eq_some_iff.1 hs).2]

theorem Moves.watchInv (h : Moves qf st o st' o') (hw : WatchInv o) : WatchInv o' := by
  rcases h.publish with rfl | ⟨l, e, d, hl, hs⟩
  · exact hw
  · exact set_preserves o o' hw _ l e d hl hs

theorem Moves.values (h : Moves qf st o st' o') {P : V → Prop} (hqf : ∀ reps, P (qf reps).1)
    (hP : (∀ v, o.reply = some v → P v) ∧ ∀ v, st.resp = some v → P v) :
    (∀ v, o'.reply = some v → P v) ∧ ∀ v, st'.resp = some v → P v := by
  have hst' : ∀ v, st'.resp = some v → P v := by
    rcases h.resp with hr | ⟨reps, hr⟩ <;> rw [hr]
    · exact hP.2
    · rintro v ⟨⟩; exact hqf reps
  refine ⟨?_, hst'⟩
  rcases h.publish with rfl | ⟨l, e, d, _, hs⟩
  · exact hP.1
  · rwa [(Obj.set_eq_some_iff.1 hs).2]

theorem moves_of_final (h : Linked st o) (e : CErr E) :
    ∃ o', o.set st.resp st.clevel (some e) true = some o' ∧ Moves qf st o st o' ∧ o'.done = true :=
  ⟨_, Obj.set_of_not_done h.2 .., ⟨.inr ⟨_, _, _, h.1 ▸ Int.le_refl _, Obj.set_of_not_done h.2 ..⟩, .inl rfl⟩, rfl⟩

theorem step_moves (qf : RepMap M → V × Int × Bool) (stream : Bool) (x : Nat) (h : Linked st o) (a : Arrival M E) :
    ∃ st' o' r, stepArrival qf stream x st o a = some (st', o', r) ∧ Moves qf st o st' o' ∧
      if r then o'.done = true else Linked st' o' := by
  cases a with
  | ctxDone c =>
    obtain ⟨o', hs, hm, hd⟩ := moves_of_final (qf := qf) h (.ctx c st.errs st.replies.length)
    exact ⟨st, o', true, by simp [stepArrival, hs], hm, hd⟩
  | error n c => exact ⟨_, o, false, rfl, ⟨.inl rfl, .inl rfl⟩, h⟩
  | reply n m =>
    rcases hq : qf (st.replies.insert n m) with ⟨v, l, q⟩
    have hv : ∃ reps, some v = some (qf reps).1 := ⟨_, by rw [hq]⟩
    have hs := fun l d => Obj.set_of_not_done h.2 (some v) l none d
    -- with `set` computed, each of the three branches is read off by `rfl`
    simp only [stepArrival, hq, hs, Option.map_some]
    cases q with
    | true =>
      refine ⟨_, _, _, rfl, ⟨.inr ⟨_, _, _, ?_, hs _ _⟩, .inr hv⟩, rfl⟩
      rw [h.1]; split <;> omega
    | false =>
      by_cases hgt : l > st.clevel <;> simp only [Bool.false_eq_true, if_false, hgt, if_true]
      · exact ⟨_, _, _, rfl, ⟨.inr ⟨_, _, _, by rw [h.1]; omega, hs _ _⟩, .inr hv⟩, rfl, rfl⟩
      · exact ⟨_, _, _, rfl, ⟨.inl rfl, .inr hv⟩, h⟩

theorem Snapshots.linked {l : List (Option (Obj V E))} (h : Snapshots qf st o l) : Linked st o := by
  cases h <;> assumption

theorem run_snapshots (qf : RepMap M → V × Int × Bool) (stream : Bool) (x : Nat) (st : LoopSt V E M) (o : Obj V E)
    (as : List (Arrival M E)) (h : Linked st o) : Snapshots qf st o (run qf stream x st o as) := by
  unfold Correctable.run
  split
  · -- the exhaustion branch
    obtain ⟨o', hs, hm, hd⟩ := moves_of_final (qf := qf) h (exhaustedErr st.errs st.replies.length as)
    rw [hs]
    exact .last h hm hd
  · cases as with
    | nil => exact .nil h
    | cons a as =>
      obtain ⟨st', o', r, hs, hm, hr⟩ := step_moves qf stream x h a
      simp only [hs]
      cases r
      · exact .cons h hm (run_snapshots qf stream x st' o' as hr)
      · exact .last h hm hr

section
variable {l : List (Option (Obj V E))} (hs : Snapshots qf st o l)
include hs

theorem Snapshots.invariant {Q : LoopSt V E M → Obj V E → Prop}
    (hQ : ∀ {st o st' o'}, Moves qf st o st' o' → Q st o → Q st' o') (h0 : Q st o) :
    ∀ s ∈ l, ∃ st' o', s = some o' ∧ Q st' o' := by
  induction hs with
  | nil => simp
  | last _ hm => simpa using ⟨_, hQ hm h0⟩
  | cons _ hm _ ih => simpa using ⟨⟨_, hQ hm h0⟩, ih (hQ hm h0)⟩

theorem Snapshots.levels_pairwise : (o.level :: levels l).Pairwise (· ≤ ·) := by
  induction hs with
  | nil => simp [levels]
  | last _ hm => simpa [levels] using hm.level_le
  | cons _ hm _ ih =>
    refine List.pairwise_cons.2 ⟨fun y hy => ?_, ih⟩
    rcases List.mem_cons.1 hy with rfl | hy
    · exact hm.level_le
    · exact Int.le_trans hm.level_le ((List.pairwise_cons.1 ih).1 y hy)

theorem Snapshots.done_last {pre post : List (Option (Obj V E))} {s : Option (Obj V E)}
    (hsplit : l = pre ++ s :: post) (hpost : post ≠ []) : ∃ o', s = some o' ∧ o'.done = false := by
  induction hs generalizing pre with
  | nil => simp at hsplit
  | last => cases pre <;> simp_all
  | cons _ _ hl ih =>
    cases pre with
    | nil =>
      obtain ⟨rfl, -⟩ := List.cons.inj hsplit
      exact ⟨_, rfl, hl.linked.2⟩
    | cons p ps => exact ih (List.cons.inj hsplit).2

end
end Publishing

/-- **the loop never calls `set` on a completed object** (the panic is dead code) -/
theorem run_never_panics (qf : RepMap M → V × Int × Bool) (stream : Bool) (x : Nat)
    (st : LoopSt V E M) (o : Obj V E) (as : List (Arrival M E)) (h : Linked st o) :
    ∀ s ∈ run qf stream x st o as, s ≠ none := by
  intro s hs
  obtain ⟨_, _, rfl, _⟩ := (run_snapshots qf stream x st o as h).invariant (Q := fun _ _ => True) (fun _ _ => trivial)
    trivial s hs
  exact Option.some_ne_none _

/-- **published levels never decrease** -/
theorem run_levels_monotone (qf : RepMap M → V × Int × Bool) (stream : Bool) (x : Nat)
    (st : LoopSt V E M) (o : Obj V E) (as : List (Arrival M E)) (h : Linked st o) :
    (o.level :: levels (run qf stream x st o as)).Pairwise (· ≤ ·) :=
  (run_snapshots qf stream x st o as h).levels_pairwise

/-- **completes at most once, and completion is final**: only the last snapshot can be a
    completed one (the loop returns right after), and every earlier one is not completed -/
theorem run_done_last (qf : RepMap M → V × Int × Bool) (stream : Bool) (x : Nat)
    (st : LoopSt V E M) (o : Obj V E) (as : List (Arrival M E)) (h : Linked st o)
    (pre : List (Option (Obj V E))) (s : Option (Obj V E)) (post : List (Option (Obj V E)))
    (hsplit : run qf stream x st o as = pre ++ s :: post) (hpost : post ≠ []) :
    ∃ o', s = some o' ∧ o'.done = false :=
  (run_snapshots qf stream x st o as h).done_last hsplit hpost

/-- everything the loop ever stores as the reply is a value returned by the quorum function
    (so the typed accessor's assertion to the quorum function's static result type holds) -/
theorem run_replies_are_qf_values (qf : RepMap M → V × Int × Bool) (stream : Bool) (x : Nat)
    (st : LoopSt V E M) (o : Obj V E) (as : List (Arrival M E)) (h : Linked st o)
    (P : V → Prop) (hqf : ∀ reps, P (qf reps).1) (ho : ∀ v, o.reply = some v → P v) (hst : ∀ v, st.resp = some v → P v) :
    ∀ o', some o' ∈ run qf stream x st o as → ∀ v, o'.reply = some v → P v := by
  intro o' ho'
  obtain ⟨_, _, he, hq⟩ := (run_snapshots qf stream x st o as h).invariant
    (Q := fun st o => (∀ v, o.reply = some v → P v) ∧ ∀ v, st.resp = some v → P v)
    (fun hm => hm.values hqf) ⟨ho, hst⟩ _ ho'
  cases he
  exact hq.1

/-- the watcher invariant holds in every snapshot -/
theorem run_watchInv (qf : RepMap M → V × Int × Bool) (stream : Bool) (x : Nat)
    (st : LoopSt V E M) (o : Obj V E) (as : List (Arrival M E)) (h : Linked st o) (hw : WatchInv o) :
    ∀ o', some o' ∈ run qf stream x st o as → WatchInv o' := by
  intro o' ho'
  obtain ⟨_, _, he, hq⟩ := (run_snapshots qf stream x st o as h).invariant (Q := fun _ o => WatchInv o)
    (fun hm => hm.watchInv) hw _ ho'
  cases he
  exact hq

/-- **exhaustion**: a plain call whose targeted nodes have all answered, or a stream call whose
    nodes have all failed, completes at the top of the loop, also with zero targets: with Incomplete —
    or with the context's error if the context has ended by then (its end is the next event) -/
theorem run_exhausted (qf : RepMap M → V × Int × Bool) (stream : Bool) (x : Nat)
    (st : LoopSt V E M) (o : Obj V E) (as : List (Arrival M E)) (h : Linked st o)
    (hx : exhausted stream st.errs.length st.replies.length x = true) :
    ∃ o', run qf stream x st o as = [some o'] ∧ o'.done = true ∧ o'.level = o.level ∧
      o'.err = some (exhaustedErr st.errs st.replies.length as) :=
  ⟨_, by unfold Correctable.run; rw [if_pos hx, Obj.set_of_not_done h.2], rfl, h.1.symm, rfl⟩

/-- exhaustion while the context has not ended: Incomplete -/
theorem run_exhausted_incomplete (qf : RepMap M → V × Int × Bool) (stream : Bool) (x : Nat)
    (st : LoopSt V E M) (o : Obj V E) (as : List (Arrival M E)) (h : Linked st o)
    (hx : exhausted stream st.errs.length st.replies.length x = true)
    (hctx : ∀ c post, as ≠ .ctxDone c :: post) :
    ∃ o', run qf stream x st o as = [some o'] ∧ o'.done = true ∧ o'.level = o.level ∧
      o'.err = some (.incomplete st.errs st.replies.length) := by
  have he : exhaustedErr st.errs st.replies.length as = .incomplete st.errs st.replies.length := by
    unfold exhaustedErr
    split
    · exact absurd rfl (hctx _ _)
    · rfl
  exact he ▸ run_exhausted qf stream x st o as h hx

/-- exhaustion when the context has ended: the context's error, with the same lists -/
theorem run_exhausted_ctx (qf : RepMap M → V × Int × Bool) (stream : Bool) (x : Nat)
    (st : LoopSt V E M) (o : Obj V E) (c : E) (post : List (Arrival M E)) (h : Linked st o)
    (hx : exhausted stream st.errs.length st.replies.length x = true) :
    ∃ o', run qf stream x st o (.ctxDone c :: post) = [some o'] ∧ o'.done = true ∧ o'.level = o.level ∧
      o'.err = some (.ctx c st.errs st.replies.length) :=
  run_exhausted qf stream x st o (.ctxDone c :: post) h hx

/-! ### "every node has failed" counts nodes, not errors

The stream arm of the exhaustion test compares the *number of errors* with the number of targeted nodes.
That is "every targeted node has failed" exactly when no node contributes two errors to one call — which is
what the node channel guarantees since the repair of defect D18 (`Chan`: `C05.at_most_one_error`,
`C05.error_is_last`: a request is answered with at most one error, after which its router is gone). -/

/-- pigeonhole: a duplicate-free list of failing nodes, all of them targeted, that is as long as the
    list of targeted nodes contains every targeted node -/
theorem all_targets_failed (targets : List NodeId) (errs : List (NodeId × E))
    (hone : (errs.map (·.1)).Nodup) (hsub : ∀ e ∈ errs, e.1 ∈ targets)
    (hlen : errs.length = targets.length) : ∀ n ∈ targets, n ∈ errs.map (·.1) := by
  intro n hn
  -- otherwise the failing nodes are among the other targeted nodes, which are fewer
  refine Decidable.byContradiction fun hnot => ?_
  have hsub' : errs.map (·.1) ⊆ targets.erase n := by
    intro k hk
    obtain ⟨e, he, rfl⟩ := List.mem_map.1 hk
    exact (List.mem_erase_of_ne (by rintro rfl; exact hnot hk)).2 (hsub e he)
  have h1 := hone.length_le_of_subset hsub'
  rw [List.length_map, List.length_erase_of_mem hn] at h1
  have := List.length_pos_of_mem hn
  omega

/-- **a server-stream call completes with Incomplete only when every targeted node has failed** (given that
    a node contributes at most one error to a call): the stream arm of the exhaustion test holds exactly then -/
theorem stream_exhausted_iff_all_failed (targets : List NodeId) (errs : List (NodeId × E)) (nReplies : Nat)
    (ht : targets.Nodup) (hone : (errs.map (·.1)).Nodup) (hsub : ∀ e ∈ errs, e.1 ∈ targets) :
    exhausted true errs.length nReplies targets.length = true ↔ ∀ n ∈ targets, n ∈ errs.map (·.1) := by
  have hle : (errs.map (·.1)).length ≤ targets.length :=
    hone.length_le_of_subset fun k hk => by
      obtain ⟨e, he, rfl⟩ := List.mem_map.1 hk
      exact hsub e he
  rw [List.length_map] at hle
  rw [show exhausted true errs.length nReplies targets.length = true ↔ errs.length = targets.length by
    simp [exhausted]]
  refine ⟨all_targets_failed targets errs hone hsub, fun hall => Nat.le_antisymm hle ?_⟩
  simpa using ht.length_le_of_subset (l₂ := errs.map (·.1)) fun k hk => hall k hk

/-- without that guarantee the count says nothing: the pinned code could report node 1 twice and complete a
    call to nodes 1 and 2 although node 2 had neither answered nor failed -/
theorem pinned_double_error_completes :
    exhausted true ([(1, "handler failed"), (1, "stream is down")] : List (NodeId × String)).length 0 ([1, 2] : List NodeId).length = true ∧
    ¬ (∀ n ∈ ([1, 2] : List NodeId), n ∈ ([(1, "handler failed"), (1, "stream is down")] : List (NodeId × String)).map (·.1)) := by
  decide

end GorumsV.C11
