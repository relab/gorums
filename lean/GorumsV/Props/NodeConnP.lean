import GorumsV.Model.NodeConn
import GorumsV.Lemmas.Lts
/-!
  C12, connection half: no connection outlives Close.  For the tree's `dial` / `close` (the four facts of
  `Params.Good`), in every reachable state the node has at most one live connection and it is the one in
  `n.conn`; once `close` has run there is none, no dial is in progress, and none can ever be created again.
  Each of the four facts is needed (four counterexamples; two of them are seeded changes C12-M2 / C12-M3).
-/
theorem GorumsV.NodeConn.isExec (P : GorumsV.NodeConn.Params) :
    GorumsV.Lts.IsExec (GorumsV.NodeConn.step P) (GorumsV.NodeConn.exec P) := ⟨fun _ => rfl, fun _ _ _ => rfl⟩

namespace GorumsV.NodeConnP
open GorumsV.NodeConn

/-- the inductive invariant of the good parameters -/
def I (s : St) : Prop :=
  s.live.length ≤ 1 ∧ (∀ c ∈ s.live, s.conn = some c) ∧
  (s.dialing = true → s.live = [] ∧ s.closed = false) ∧
  (s.closed = true → s.live = [] ∧ s.dialing = false)

theorem closeConn_nil (live : List Nat) (conn : Option Nat) (h : ∀ c ∈ live, conn = some c) :
    closeConn live conn = [] := by
  cases conn with
  | none =>
    cases live with
    | nil => rfl
    | cons a l => cases h a (List.mem_cons_self ..)
  | some c =>
    refine List.filter_eq_nil_iff.2 fun a ha => ?_
    cases h a ha
    simp

theorem step_dialBegin {P : Params} {s s' : St} : step P s .dialBegin = some s' ↔
    s.dialing = false ∧ (if P.checksClosed && s.closed then s else
      { s with dialing := true, live := if P.closesOld then closeConn s.live s.conn else s.live }) = s' := by
  simp [step, ← apply_ite some]

theorem step_dialEnd {P : Params} {s s' : St} {ok : Bool} : step P s (.dialEnd ok) = some s' ↔
    s.dialing = true ∧ (if ok then
        { s with dialing := false, conn := some s.next, live := s.live ++ [s.next], next := s.next + 1 }
      else { s with dialing := false, conn := none }) = s' := by
  simp [step, ← apply_ite some]

theorem step_close {P : Params} {s s' : St} : step P s .close = some s' ↔
    (P.lockedDial && s.dialing) = false ∧
      { s with closed := true, live := if P.closeCloses then closeConn s.live s.conn else s.live } = s' := by
  simp [step]

theorem I_init : I init := by
  simp [I, init]

theorem I_step (P : Params) (hP : P.Good) (s s' : St) (l : Label) (hI : I s) (h : step P s l = some s') : I s' := by
  obtain ⟨h1, h2, h3, h4⟩ := hP
  obtain ⟨i1, i2, i3, i4⟩ := hI
  have hn := closeConn_nil s.live s.conn i2
  cases l with
  | dialBegin =>
    obtain ⟨hd, rfl⟩ := step_dialBegin.1 h
    rw [h1, h2, Bool.true_and, if_pos rfl, hn]
    split
    · exact ⟨i1, i2, i3, i4⟩
    · simp_all [I]
  | dialEnd ok =>
    obtain ⟨hd, rfl⟩ := step_dialEnd.1 h
    obtain ⟨hl, hc⟩ := i3 hd
    split <;> simp [I, hl, hc]
  | close =>
    obtain ⟨hd, rfl⟩ := step_close.1 h
    rw [h3, Bool.true_and] at hd
    simp [I, h4, hn, hd]

theorem I_reachable (P : Params) (hP : P.Good) (s : St) (h : Reachable P s) : I s :=
  (isExec P).reachable_invariant I_init (I_step P hP) h

theorem step_closed (P : Params) (s s' : St) (l : Label) (h : step P s l = some s') :
    s'.closed = true ↔ s.closed = true ∨ l = .close := by
  cases l with
  | dialBegin =>
    obtain ⟨_, rfl⟩ := step_dialBegin.1 h
    split <;> simp
  | dialEnd ok =>
    obtain ⟨_, rfl⟩ := step_dialEnd.1 h
    split <;> simp
  | close =>
    obtain ⟨_, rfl⟩ := step_close.1 h
    simp

theorem closed_exec (P : Params) (ls : List Label) (s s' : St) (hc : s.closed = true)
    (he : exec P s ls = some s') : s'.closed = true :=
  (isExec P).invariant (fun s s' l hc h => (step_closed P s s' l h).2 (Or.inl hc)) hc he

/-- at most one live connection, and it is the current one -/
theorem live_is_current (P : Params) (hP : P.Good) (s : St) (h : Reachable P s) :
    s.live.length ≤ 1 ∧ ∀ c ∈ s.live, s.conn = some c := by
  have hI := I_reachable P hP s h
  exact ⟨hI.1, hI.2.1⟩

/-- **no connection outlives Close**: after `close` nothing is live and no dial is in progress -/
theorem closed_no_live (P : Params) (hP : P.Good) (s : St) (h : Reachable P s) (hc : s.closed = true) :
    s.live = [] ∧ s.dialing = false :=
  (I_reachable P hP s h).2.2.2 hc

/-- … and that stays so whatever happens afterwards (Close is final; calling it again changes nothing) -/
theorem closed_is_final (P : Params) (hP : P.Good) (s : St) (h : Reachable P s) (hc : s.closed = true)
    (ls : List Label) (s' : St) (he : exec P s ls = some s') : s'.closed = true ∧ s'.live = [] := by
  have hI := I_reachable P hP s h
  have hc' := closed_exec P ls s s' hc he
  exact ⟨hc', (((isExec P).invariant (I_step P hP) hI he).2.2.2 hc').1⟩

/-- a second close is a no-op -/
theorem close_idempotent (P : Params) (hP : P.Good) (s : St) (h : Reachable P s) (hc : s.closed = true) :
    step P s .close = some s := by
  obtain ⟨hl, hd⟩ := (I_reachable P hP s h).2.2.2 hc
  have hn : closeConn s.live s.conn = s.live := by rw [hl]; cases s.conn <;> rfl
  exact step_close.2 ⟨by rw [hd, Bool.and_false], by rw [hn, ite_self, ← hc]⟩

def good : Params := ⟨true, true, true, true⟩
theorem good_good : good.Good := ⟨rfl, rfl, rfl, rfl⟩

/-- non-vacuity: dial, re-dial, failed dial, dial, close — one live connection before the close, none after -/
example : exec good init [.dialBegin, .dialEnd true, .dialBegin, .dialEnd true, .dialBegin, .dialEnd false, .dialBegin, .dialEnd true] =
    some { closed := false, conn := some 2, live := [2], next := 3, dialing := false } := by decide
example : exec good init [.dialBegin, .dialEnd true, .dialBegin, .dialEnd true, .close, .dialBegin, .close] =
    some { closed := true, conn := some 1, live := [], next := 2, dialing := false } := by decide

/-- each fact is needed -/
theorem needs_closesOld : ∃ s, exec { good with closesOld := false } init [.dialBegin, .dialEnd true, .dialBegin, .dialEnd true, .close] = some s ∧
    s.closed = true ∧ s.live = [0] :=
  ⟨_, rfl, rfl, rfl⟩
theorem needs_checksClosed : ∃ s, exec { good with checksClosed := false } init [.close, .dialBegin, .dialEnd true] = some s ∧
    s.closed = true ∧ s.live = [0] :=
  ⟨_, rfl, rfl, rfl⟩
theorem needs_lockedDial : ∃ s, exec { good with lockedDial := false } init [.dialBegin, .close, .dialEnd true] = some s ∧
    s.closed = true ∧ s.live = [0] :=
  ⟨_, rfl, rfl, rfl⟩
theorem needs_closeCloses : ∃ s, exec { good with closeCloses := false } init [.dialBegin, .dialEnd true, .close] = some s ∧
    s.closed = true ∧ s.live = [0] :=
  ⟨_, rfl, rfl, rfl⟩

end GorumsV.NodeConnP
