import GorumsV.Model.SrvConn
import GorumsV.Lemmas.Lts
import GorumsV.Lemmas.Basic
/-!
  C04 — a server runs one handler at a time per client connection until Release.
-/
theorem GorumsV.SrvConn.isExec : GorumsV.Lts.IsExec GorumsV.SrvConn.step GorumsV.SrvConn.exec := ⟨fun _ => rfl, fun _ _ _ => rfl⟩

namespace GorumsV.C04
open GorumsV.SrvConn

def Reachable (s : State) : Prop := ∃ ls, exec init ls = some s

/-- the invariant: the mutex is locked exactly when the loop is at the top of its cycle or a started
    handler still holds it; at most one started handler has not released; nothing fatal happened -/
structure Inv (s : State) : Prop where
  notFatal : s.fatal = false
  atTop : s.loopWaiting = false → s.locked = true ∧ unreleased s = 0
  waiting : s.loopWaiting = true → (s.locked = true ∧ unreleased s = 1) ∨ (s.locked = false ∧ unreleased s = 0)
  nodup : (started s).Nodup
  retReleased : ∀ h ∈ s.handlers, h.returned = true → h.released = true

/-- what `once.Do(mut.Unlock)` on behalf of request `r` does to an entry of the handler list -/
def setReleased (r : ReqId) : Handler → Handler := fun h => if h.req == r then { h with released := true } else h

/-- what the return of the handler of request `r` does to an entry of the handler list -/
def setReturned (r : ReqId) : Handler → Handler := fun h => if h.req == r then { h with returned := true } else h

section
variable (r : ReqId) (h : Handler)

@[simp] theorem setReleased_req : (setReleased r h).req = h.req := by
  unfold setReleased; split <;> rfl

@[simp] theorem setReleased_returned : (setReleased r h).returned = h.returned := by
  unfold setReleased; split <;> rfl

@[simp] theorem setReleased_released : (setReleased r h).released = (h.released || h.req == r) := by
  unfold setReleased; split <;> simp [*]

@[simp] theorem setReturned_req : (setReturned r h).req = h.req := by
  unfold setReturned; split <;> rfl

@[simp] theorem setReturned_released : (setReturned r h).released = h.released := by
  unfold setReturned; split <;> rfl

@[simp] theorem setReturned_returned : (setReturned r h).returned = (h.returned || h.req == r) := by
  unfold setReturned; split <;> simp [*]

end

theorem step_recv {s s' : State} {r : ReqId} : step s (.recv r) = some s' ↔
    (s.loopWaiting = false ∧ s.fatal = false ∧ r ∉ started s) ∧
      s' = { s with handlers := s.handlers ++ [{ req := r }], loopWaiting := true } := by
  simp [step, started, and_assoc, eq_comm (a := s')]

theorem step_release {s s' : State} {r : ReqId} : step s (.release r) = some s' ↔
    s.handlers.any (fun h => h.req == r && !h.returned) = true ∧ s' = fire s r := by
  simp only [step, Option.ite_none_right_eq_some, Option.some.injEq, eq_comm (a := s')]

theorem step_ret {s s' : State} {r : ReqId} : step s (.ret r) = some s' ↔
    s.handlers.any (fun h => h.req == r && !h.returned) = true ∧
      s' = { fire s r with handlers := (fire s r).handlers.map (setReturned r) } := by
  simp only [step, Option.ite_none_right_eq_some, Option.some.injEq, eq_comm (a := s')]
  rfl

theorem step_acquire {s s' : State} : step s .acquire = some s' ↔
    (s.loopWaiting = true ∧ s.locked = false) ∧ s' = { s with locked := true, loopWaiting := false } := by
  simp only [step, Option.ite_none_right_eq_some, Option.some.injEq, eq_comm (a := s'), Bool.and_eq_true,
    Bool.not_eq_true']

theorem fire_cases (s : State) (r : ReqId) :
    (((∀ a ∈ s.handlers, a.req ≠ r) ∨ ∃ h ∈ s.handlers, h.req = r ∧ h.released = true) ∧ fire s r = s) ∨
    ∃ h ∈ s.handlers, h.req = r ∧ h.released = false ∧
      fire s r = { s with handlers := s.handlers.map (setReleased r), locked := false, fatal := s.fatal || !s.locked } := by
  unfold fire
  split
  · rename_i hf
    exact .inl ⟨.inl fun a ha => by simpa using List.find?_eq_none.1 hf a ha, rfl⟩
  · rename_i h hf
    have hm : h ∈ s.handlers := List.mem_of_find?_eq_some hf
    have hq : h.req = r := by simpa using List.find?_some hf
    cases hr : h.released with
    | true => exact .inl ⟨.inr ⟨h, hm, hq, hr⟩, rfl⟩
    | false =>
      refine .inr ⟨h, hm, hq, hr, ?_⟩
      cases hl : s.locked <;> simp [setReleased]

theorem map_req_map {f : Handler → Handler} (hf : ∀ h, (f h).req = h.req) (hs : List Handler) :
    (hs.map f).map (·.req) = hs.map (·.req) := by
  rw [List.map_map]
  exact List.map_congr_left fun h _ => hf h

theorem released_of_mem_map_setReleased {r : ReqId} {hs : List Handler} :
    ∀ a ∈ hs.map (setReleased r), a.req = r → a.released = true :=
  List.forall_mem_map.2 fun a _ hq => by rw [setReleased_req] at hq; simp [hq]

theorem started_fire (s : State) (r : ReqId) : started (fire s r) = started s := by
  rcases fire_cases s r with ⟨_, h⟩ | ⟨_, _, _, _, h⟩ <;> rw [h]
  exact map_req_map (setReleased_req r) s.handlers

theorem fire_eq_self {s : State} {r : ReqId} (h : ∀ a ∈ s.handlers, a.req = r → a.released = true) :
    fire s r = s := by
  rcases fire_cases s r with ⟨_, hf⟩ | ⟨h₀, hmem, hreq, hrel, _⟩
  · exact hf
  · exact nomatch (h h₀ hmem hreq).symm.trans hrel

theorem fire_fire (s : State) (r : ReqId) : fire (fire s r) r = fire s r := by
  rcases fire_cases s r with ⟨_, h⟩ | ⟨_, _, _, _, h⟩ <;> rw [h]
  · exact h
  · exact fire_eq_self released_of_mem_map_setReleased

/-- `fire` looks at the first handler of `r` only: that all of them have released afterwards needs
    distinct request ids -/
theorem fire_released (s : State) (r : ReqId) (hnd : (started s).Nodup) :
    ∀ a ∈ (fire s r).handlers, a.req = r → a.released = true := by
  rcases fire_cases s r with ⟨hall, h⟩ | ⟨_, _, _, _, h⟩ <;> rw [h]
  · intro a ha hq
    rcases hall with hno | ⟨h₀, hmem, hreq, hrel⟩
    · exact absurd hq (hno a ha)
    · exact List.eq_of_nodup_map hnd ha hmem (hq.trans hreq.symm) ▸ hrel
  · exact released_of_mem_map_setReleased

theorem unreleased_eq_zero_iff (s : State) :
    unreleased s = 0 ↔ ∀ h ∈ s.handlers, h.released = true := by
  simp [unreleased, List.filter_eq_nil_iff]

theorem unreleased_one_unique (s : State) (h1 : unreleased s = 1) {a b : Handler}
    (ha : a ∈ s.handlers) (hra : a.released = false)
    (hb : b ∈ s.handlers) (hrb : b.released = false) : a = b := by
  unfold unreleased at h1
  obtain ⟨x, hx⟩ := List.length_eq_one_iff.mp h1
  have ha' : a ∈ s.handlers.filter (fun h => !h.released) := by simp [List.mem_filter, ha, hra]
  have hb' : b ∈ s.handlers.filter (fun h => !h.released) := by simp [List.mem_filter, hb, hrb]
  rw [hx, List.mem_singleton] at ha' hb'
  rw [ha', hb']

theorem unreleased_map {f : Handler → Handler} (hf : ∀ h, (f h).released = h.released) (s : State) :
    unreleased { s with handlers := s.handlers.map f } = unreleased s := by
  simp only [unreleased, List.filter_map, List.length_map]
  congr 2
  funext a
  exact congrArg not (hf a)

theorem inv_fire (s : State) (r : ReqId) (h : Inv s) : Inv (fire s r) := by
  rcases fire_cases s r with ⟨_, hf⟩ | ⟨h₀, hmem, hreq, hrel, hf⟩ <;> rw [hf]
  · exact h
  -- `h₀` holds the mutex: the loop waits for it, and it is the one handler that has not released
  have hne : unreleased s ≠ 0 := fun hz => by simpa [hrel] using (unreleased_eq_zero_iff s).1 hz h₀ hmem
  have hw : s.loopWaiting = true := Bool.of_not_eq_false fun hlw => hne (h.atTop hlw).2
  have hl : s.locked = true ∧ unreleased s = 1 := (h.waiting hw).resolve_right fun h1 => hne h1.2
  refine ⟨by simp [h.notFatal, hl.1], fun hf => by simp [hw] at hf, fun _ => .inr ⟨rfl, ?_⟩,
    by simpa only [started, map_req_map (setReleased_req r)] using h.nodup, ?_⟩
  · refine (unreleased_eq_zero_iff _).2 (List.forall_mem_map.2 fun a ha => ?_)
    cases hra : a.released with
    | true => simp [hra]
    | false => simp [unreleased_one_unique s hl.2 ha hra hmem hrel, hreq]
  · exact List.forall_mem_map.2 fun a ha hret => by simp [h.retReleased a ha (by simpa using hret)]

theorem inv_markReturned (s : State) (r : ReqId) (h : Inv s)
    (hr : ∀ a ∈ s.handlers, a.req = r → a.released = true) :
    Inv { s with handlers := s.handlers.map (setReturned r) } := by
  have hun := unreleased_map (setReturned_released r) s
  refine ⟨h.notFatal, fun hf => hun ▸ h.atTop hf, fun hf => hun ▸ h.waiting hf,
    by simpa only [started, map_req_map (setReturned_req r)] using h.nodup,
    List.forall_mem_map.2 fun a ha hret => ?_⟩
  rw [setReturned_returned, Bool.or_eq_true, beq_iff_eq] at hret
  rw [setReturned_released]
  exact hret.elim (h.retReleased a ha) (hr a ha)

theorem inv_init : Inv init :=
  ⟨rfl, fun _ => ⟨rfl, rfl⟩, fun hf => (nomatch hf), List.nodup_nil, fun _ ha => (nomatch ha)⟩

theorem inv_step (s s' : State) (l : Label) (h : Inv s) (hs : step s l = some s') : Inv s' := by
  cases l with
  | recv r =>
    obtain ⟨⟨hlw, _, hfresh⟩, rfl⟩ := step_recv.1 hs
    have hun : unreleased { s with handlers := s.handlers ++ [{ req := r }], loopWaiting := true }
        = unreleased s + 1 := by
      simp [unreleased, List.filter_append]
    exact ⟨h.notFatal, fun hf => (nomatch hf), fun _ => .inl ⟨(h.atTop hlw).1, by rw [hun, (h.atTop hlw).2]⟩,
      by rw [started, List.map_append]; exact List.nodup_append_singleton.2 ⟨h.nodup, hfresh⟩,
      List.forall_mem_append.2 ⟨h.retReleased, List.forall_mem_singleton.2 nofun⟩⟩
  | release r =>
    obtain ⟨_, rfl⟩ := step_release.1 hs
    exact inv_fire s r h
  | ret r =>
    obtain ⟨_, rfl⟩ := step_ret.1 hs
    exact inv_markReturned (fire s r) r (inv_fire s r h) (fire_released s r h.nodup)
  | acquire =>
    obtain ⟨⟨hlw, hl⟩, rfl⟩ := step_acquire.1 hs
    have h0 : unreleased s = 0 := (h.waiting hlw).elim (fun h1 => (nomatch h1.1.symm.trans hl)) (·.2)
    exact ⟨h.notFatal, fun _ => ⟨rfl, h0⟩, fun hf => (nomatch hf), h.nodup, h.retReleased⟩

theorem inv_reachable (s : State) (h : Reachable s) : Inv s :=
  SrvConn.isExec.reachable_invariant inv_init inv_step h

/-- **at most one handler that has not released, per connection, at every moment** -/
theorem at_most_one_unreleased (s : State) (h : Reachable s) : unreleased s ≤ 1 := by
  have hi := inv_reachable s h
  cases hlw : s.loopWaiting with
  | false => exact (hi.atTop hlw).2 ▸ Nat.zero_le 1
  | true => exact (hi.waiting hlw).elim (fun h1 => Nat.le_of_eq h1.2) (fun h1 => h1.2 ▸ Nat.zero_le 1)

/-- **the next handler starts only after the previous one has returned or released** -/
theorem start_requires_release (s s' : State) (r : ReqId) (h : Reachable s) (hs : step s (.recv r) = some s') :
    unreleased s = 0 :=
  ((inv_reachable s h).atTop (step_recv.1 hs).1.1).2

theorem step_release_idem {s s' : State} {r : ReqId} (hs : step s (.release r) = some s') :
    step s' (.release r) = some s' := by
  obtain ⟨hany, rfl⟩ := step_release.1 hs
  refine step_release.2 ⟨?_, (fire_fire s r).symm⟩
  -- `fire` changes no `req` and no `returned`
  rcases fire_cases s r with ⟨_, hf⟩ | ⟨_, _, _, _, hf⟩ <;> rw [hf]
  · exact hany
  · simpa [List.any_map, Function.comp_def] using hany

/-- **Release may be called any number of times, from any goroutine**: a second Release of the same
    request changes nothing (and in particular never unlocks an unlocked mutex) -/
theorem release_idempotent (s s' : State) (r : ReqId) (h : Reachable s) (hs : step s (.release r) = some s') :
    step s' (.release r) = some s' :=
  have _ := h  -- reachability is not needed for idempotence
  step_release_idem hs

/-- The statement of `return_releases` *as originally given* (no hypothesis on `s`) is FALSE: with two
    handler entries carrying the same request id, `fire` only inspects the first one (already
    released), so the second stays unreleased although it is marked returned. Such a state is not
    reachable (`Inv.nodup`), hence the true version below needs distinct ids. -/
theorem return_releases_counterexample :
    ¬ (∀ (s s' : State) (r : ReqId), step s (.ret r) = some s' →
        ∀ h ∈ s'.handlers, h.req = r → h.released = true ∧ h.returned = true) := by
  intro hall
  have := hall
    { handlers := [{ req := 1, released := true }, { req := 1, released := false }] }
    { handlers := [{ req := 1, released := true, returned := true },
                   { req := 1, released := false, returned := true }] }
    1 (by decide) { req := 1, released := false, returned := true } (by decide) rfl
  exact absurd this.1 (by decide)

/-- the true general form: it suffices that the started request ids are distinct -/
theorem return_releases_of_nodup (s s' : State) (r : ReqId) (hnd : (started s).Nodup)
    (hs : step s (.ret r) = some s') :
    ∀ h ∈ s'.handlers, h.req = r → h.released = true ∧ h.returned = true := by
  obtain ⟨_, rfl⟩ := step_ret.1 hs
  refine List.forall_mem_map.2 fun a ha hq => ?_
  rw [setReturned_req] at hq
  simp [hq, fire_released s r hnd a ha hq]

/-- **Release happens implicitly when the handler returns** (closest true version of the original
    statement: the extra hypothesis `Reachable s` was added, see `return_releases_counterexample`) -/
theorem return_releases (s s' : State) (r : ReqId) (h : Reachable s) (hs : step s (.ret r) = some s') :
    ∀ h ∈ s'.handlers, h.req = r → h.released = true ∧ h.returned = true :=
  return_releases_of_nodup s s' r (inv_reachable s h).nodup hs

/-- same as `return_releases`, under the `_partial` naming convention for amended statements -/
theorem return_releases_partial (s s' : State) (r : ReqId) (h : Reachable s) (hs : step s (.ret r) = some s') :
    ∀ h ∈ s'.handlers, h.req = r → h.released = true ∧ h.returned = true :=
  return_releases s s' r h hs

/-- the mutex is never unlocked twice (no "unlock of unlocked mutex" crash) -/
theorem never_fatal (s : State) (h : Reachable s) : s.fatal = false :=
  (inv_reachable s h).notFatal

theorem started_step (s s' : State) (l : Label) (hs : step s l = some s') :
    started s' = started s ++ (match l with | .recv r => [r] | _ => []) := by
  cases l with
  | recv r =>
    obtain ⟨_, rfl⟩ := step_recv.1 hs
    simp [started]
  | release r =>
    obtain ⟨_, rfl⟩ := step_release.1 hs
    simp [started_fire]
  | ret r =>
    obtain ⟨_, rfl⟩ := step_ret.1 hs
    exact (List.append_nil _).symm ▸ (map_req_map (setReturned_req r) _).trans (started_fire s r)
  | acquire =>
    obtain ⟨_, rfl⟩ := step_acquire.1 hs
    simp [started]

theorem started_exec (ls : List Label) (s s' : State) (h : exec s ls = some s') :
    started s' = started s ++ ls.filterMap (fun l => match l with | .recv r => some r | _ => none) :=
  SrvConn.isExec.induction
    (motive := fun s ls s' =>
      started s' = started s ++ ls.filterMap (fun l => match l with | .recv r => some r | _ => none))
    (fun _ => (List.append_nil _).symm)
    (fun s l s₁ ls s' h₁ _ ih => by
      rw [ih, started_step s s₁ l h₁, List.append_assoc]
      cases l <;> rfl) h

/-- handlers are started in the order in which the requests were received -/
theorem started_in_receive_order (ls : List Label) (s : State) (h : exec init ls = some s) :
    started s = ls.filterMap (fun l => match l with | .recv r => some r | _ => none) :=
  (started_exec ls init s h).trans (List.nil_append _)

/-- a handler that has released may still be running while later ones start: releasing early does
    not wait for the return -/
theorem released_handlers_run_concurrently :
    ∃ s, Reachable s ∧ (s.handlers.filter (fun h => !h.returned)).length = 2 := by
  refine ⟨{ locked := true, loopWaiting := true,
            handlers := [{ req := 1, released := true }, { req := 2 }] },
          ⟨[.recv 1, .release 1, .acquire, .recv 2], by decide⟩, by decide⟩

/-- a server with several client connections: one independent `State` per connection
    (the mutex and the handler list are local to a `NodeStream` activation) -/
abbrev Sys := Nat → State

def stepSys (sys : Sys) (c : Nat) (l : Label) : Option Sys :=
  (step (sys c) l).map (fun s' => fun c' => if c' = c then s' else sys c')

/-- **a handler that never releases delays only later requests of its own connection**: a step of
    connection `c` leaves every other connection's state, and hence what it can do next, unchanged -/
theorem other_connections_unaffected (sys sys' : Sys) (c : Nat) (l : Label) (h : stepSys sys c l = some sys')
    (c' : Nat) (hne : c' ≠ c) : sys' c' = sys c' ∧ ∀ l', step (sys' c') l' = step (sys c') l' := by
  obtain ⟨s₁, _, rfl⟩ := Option.map_eq_some_iff.1 h
  have : (fun c'' => if c'' = c then s₁ else sys c'') c' = sys c' := if_neg hne
  exact ⟨this, fun l' => by rw [this]⟩

end GorumsV.C04
