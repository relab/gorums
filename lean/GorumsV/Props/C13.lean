import GorumsV.Model.Codec
/-!
  C13 — the wire codec round-trips every message and never panics on any input.

  Everything that is Gorums' own — the varint framing, the length handling, the
  choice of message type by method name and direction, the descriptor assertion,
  the slice `b[mdLen:]` — is proved here for *all* byte strings; protobuf's own
  marshal/unmarshal and the registries are oracle parameters (trusted base).
-/
namespace GorumsV.C13
open GorumsV.Codec

theorem toNat_ofNat_lt (n : Nat) (h : n < 256) : (UInt8.ofNat n).toNat = n := by
  simp [Nat.mod_eq_of_lt h]

/-- a byte `b < 128` ends the varint (the tenth byte only if it is 0 or 1) -/
theorem consumeVarintAux_last {i acc b : Nat} {y : UInt8} {rest : Bytes} (hy : y.toNat = b) (hb : b < 128) (hi : i ≤ 9)
    (h : b * 2 ^ (7 * i) < 2 ^ 64) :
    consumeVarintAux i acc (y :: rest) = .ok (acc + b * 2 ^ (7 * i), i + 1) := by
  subst hy
  rw [consumeVarintAux]
  split
  · cases Nat.le_antisymm hi ‹_›
    rw [if_pos (by omega)]
  · rfl

theorem consumeVarintAux_more {i acc b : Nat} {y : UInt8} {rest : Bytes} (hy : y.toNat = b + 128) (hi : i < 9) :
    consumeVarintAux i acc (y :: rest) = consumeVarintAux (i + 1) (acc + b * 2 ^ (7 * i)) rest := by
  rw [consumeVarintAux, if_neg (Nat.not_le.2 hi), if_neg (by omega), hy, Nat.add_sub_cancel]

theorem low7 (n X : Nat) : n % 128 * X + n / 128 * (128 * X) = n * X := by
  rw [← Nat.mul_assoc, ← Nat.add_mul, Nat.mul_comm (n / 128), Nat.mod_add_div]

/-- the bytes of `n`, read from byte `i` on, add `n` at scale `2 ^ (7 * i)` — as long as that fits in
    64 bits -/
theorem consumeVarintAux_put (n i acc : Nat) (rest : Bytes) (hi : i ≤ 9) (hn : n * 2 ^ (7 * i) < 2 ^ 64) :
    consumeVarintAux i acc (putUvarint n ++ rest) = .ok (acc + n * 2 ^ (7 * i), i + (putUvarint n).length) := by
  fun_induction putUvarint n generalizing i acc with
  | case1 n h128 =>
    rw [List.singleton_append, consumeVarintAux_last (toNat_ofNat_lt n (by omega)) h128 hi hn]
    rfl
  | case2 n h128 ih =>
    have hy := toNat_ofNat_lt (n % 128 + 128) (by omega)
    -- the tenth byte would be at scale `2 ^ 63`
    have hi' : i < 9 := Nat.lt_of_le_of_ne hi fun h9 => by subst h9; omega
    have hp : 2 ^ (7 * (i + 1)) = 128 * 2 ^ (7 * i) := by rw [Nat.mul_add, Nat.pow_add, Nat.mul_comm]
    have hn' : n / 128 * 2 ^ (7 * (i + 1)) < 2 ^ 64 := by
      rw [← low7 n] at hn
      rw [hp]
      exact Nat.lt_of_le_of_lt (Nat.le_add_left ..) hn
    rw [List.cons_append, consumeVarintAux_more hy hi', ih (i + 1) _ hi' hn', hp, Nat.add_assoc acc, low7,
      List.length_cons, Nat.add_right_comm i, Nat.add_assoc i]

/-- **varint round trip**, for every 64-bit value and every continuation -/
theorem uvarint_roundtrip (n : Nat) (h : n < 2 ^ 64) (rest : Bytes) :
    consumeVarint (putUvarint n ++ rest) = .ok (n, (putUvarint n).length) := by
  have := consumeVarintAux_put n 0 0 rest (Nat.zero_le 9) (by simpa using h)
  simpa [consumeVarint] using this

/-- the result of `ConsumeVarint` is a negative error code or a count of consumed bytes inside the buffer -/
theorem consumeVarintAux_spec (i acc : Nat) (b : Bytes) (hi : i ≤ 9) :
    match consumeVarintAux i acc b with
    | .ok (_, n) => i < n ∧ n ≤ i + b.length
    | .error c => c < 0 := by
  fun_induction consumeVarintAux i acc b with
  | case1 => show (-1 : Int) < 0; decide
  | case2 => exact ⟨by omega, by simp only [List.length_cons]; omega⟩
  | case3 => show (-3 : Int) < 0; decide
  | case4 => exact ⟨Nat.lt_succ_self _, by simp only [List.length_cons]; omega⟩
  | case5 i acc y rest h9 _ ih =>
    have := ih (by omega)
    rw [List.length_cons]
    split at this
    · exact ⟨by omega, by omega⟩
    · exact this

/-- **length-prefixed part round trip**: whatever bytes `p` and continuation `rest` -/
theorem consumeBytes_part (p rest : Bytes) (h : p.length < 2 ^ 64) :
    consumeBytes (putUvarint p.length ++ p ++ rest) = (p, (((putUvarint p.length).length + p.length : Nat) : Int)) := by
  rw [consumeBytes, List.append_assoc, uvarint_roundtrip p.length h]
  simp only [List.drop_left, List.take_left]
  rw [if_neg (by simp)]

theorem consumeBytes_cases (b : Bytes) :
    (∃ c, c < 0 ∧ consumeBytes b = ([], c)) ∨
    (∃ m n, n + m ≤ b.length ∧ consumeBytes b = ((b.drop n).take m, ((n + m : Nat) : Int))) := by
  have hs := consumeVarintAux_spec 0 0 b (Nat.zero_le 9)
  unfold consumeBytes consumeVarint
  split at hs
  · next m n hcv =>
    rw [hcv]
    simp only [List.length_drop]
    split
    · exact .inl ⟨_, by decide, rfl⟩
    · exact .inr ⟨m, n, by omega, rfl⟩
  · next c hcv =>
    rw [hcv]
    exact .inl ⟨c, hs, rfl⟩

/-- a negative length result always comes with an empty slice -/
theorem consumeBytes_neg (b : Bytes) (h : (consumeBytes b).2 < 0) : (consumeBytes b).1 = [] := by
  rcases consumeBytes_cases b with ⟨c, _, e⟩ | ⟨m, n, _, e⟩
  · rw [e]
  · rw [e] at h
    exact absurd h (Int.not_lt.2 (Int.natCast_nonneg _))

/-- a non-negative length result stays inside the buffer, so `b[mdLen:]` is in range -/
theorem consumeBytes_in_range (b : Bytes) (h : 0 ≤ (consumeBytes b).2) : (consumeBytes b).2.toNat ≤ b.length := by
  rcases consumeBytes_cases b with ⟨c, hc, e⟩ | ⟨m, n, hmn, e⟩
  · rw [e] at h
    exact absurd h (Int.not_le.2 hc)
  · rw [e]
    exact hmn

/-- **frame round trip**: decoding the frame of any two byte strings gives them back,
    the second one found exactly at the offset `k` the first decoding reports -/
theorem frame_roundtrip (md msg : Bytes) (h1 : md.length < 2 ^ 64) (h2 : msg.length < 2 ^ 64) :
    ∃ k k' : Nat, consumeBytes (encodeFrame md msg) = (md, (k : Int)) ∧
      consumeBytes ((encodeFrame md msg).drop k) = (msg, (k' : Int)) := by
  refine ⟨_, (putUvarint msg.length).length + msg.length, consumeBytes_part md _ h1, ?_⟩
  rw [encodeFrame, ← List.length_append, List.drop_left]
  have := consumeBytes_part msg [] h2
  rwa [List.append_nil] at this

variable {Md Msg : Type}

/-- **decode ∘ encode**: for every registered method, metadata and message whose
    serialisations the protobuf oracles parse back, in both directions, the decoder
    yields that metadata and message, of the type the direction selects
    (`Input` for requests, `Output` for responses). -/
theorem unmarshal_marshal (O : Oracles Md Msg) (checked : Bool) (dir : Dir)
    (mdB msgB : Bytes) (md : Md) (m : Msg) (i o : String)
    (h1 : mdB.length < 2 ^ 64) (h2 : msgB.length < 2 ^ 64)
    (hmd : O.parseMetadata mdB = some md)
    (hl : O.lookup (O.methodOf md) = .method i o)
    (ht : O.hasType (pick dir i o) = true)
    (hm : O.parseMsg (pick dir i o) msgB = some m) :
    unmarshal O checked dir (encodeFrame mdB msgB) = .ok md (pick dir i o) m := by
  obtain ⟨k, k', e1, e2⟩ := frame_roundtrip mdB msgB h1 h2
  simp [unmarshal, e1, e2, hmd, hl, ht, hm]

/-- the decoder's two panics: the unchecked descriptor assertion on an entity that is not a method, and
    the slice `b[mdLen:]` with a negative `mdLen` -/
theorem unmarshal_panic {O : Oracles Md Msg} {checked : Bool} {dir : Dir} {b : Bytes} {why : String}
    (h : unmarshal O checked dir b = .panic why) :
    ∃ md, O.parseMetadata (consumeBytes b).1 = some md ∧
      (checked = false ∧ O.lookup (O.methodOf md) = .other ∨
       (consumeBytes b).2 < 0 ∧ ∃ i o, O.lookup (O.methodOf md) = .method i o) := by
  unfold unmarshal at h
  generalize consumeBytes b = cb at h ⊢
  obtain ⟨mdBuf, mdLen⟩ := cb
  cases hmd : O.parseMetadata mdBuf with
  | none => simp [hmd] at h
  | some md =>
    refine ⟨md, rfl, ?_⟩
    cases hl : O.lookup (O.methodOf md) with
    | notFound => simp [hmd, hl] at h
    | other =>
      cases checked
      · exact .inl ⟨rfl, rfl⟩
      · simp [hmd, hl] at h
    | method i o =>
      refine .inr ⟨Decidable.byContradiction fun hneg => ?_, i, o, rfl⟩
      simp only [hmd, hl, hneg, if_false] at h
      split at h
      · cases h
      · split at h <;> cases h

/-- **never panics on any input**, provided the descriptor assertion is checked and the
    (empty) metadata obtained from an unreadable length prefix names no registered
    entity — which holds for protobuf: an empty buffer parses to a metadata with the
    empty method name, and the registry has no entry for the empty name. -/
theorem unmarshal_total (O : Oracles Md Msg) (dir : Dir) (b : Bytes)
    (hempty : ∀ md, O.parseMetadata [] = some md → O.lookup (O.methodOf md) = .notFound) :
    ∀ why, unmarshal O true dir b ≠ .panic why := by
  intro why h
  obtain ⟨md, hmd, ⟨hc, _⟩ | ⟨hneg, i, o, hl⟩⟩ := unmarshal_panic h
  · cases hc
  · -- negative length ⇒ empty slice ⇒ the lookup fails
    rw [consumeBytes_neg b hneg] at hmd
    rw [hempty md hmd] at hl
    cases hl

/-- with an unchecked assertion a frame whose method field names a non-method entity
    makes the decoder panic (defect D13 of the pinned tree) -/
theorem unmarshal_unchecked_panics :
    ∃ (O : Oracles String Unit) (b : Bytes), unmarshal O false .request b = .panic "interface conversion" := by
  refine ⟨{ parseMetadata := fun _ => some "ordering.Metadata", methodOf := id,
            lookup := fun s => if s = "ordering.Metadata" then .other else .notFound,
            hasType := fun _ => true, parseMsg := fun _ _ => some () }, [], ?_⟩
  simp [unmarshal]

/-! ### status through `WrapMessage` / `status.FromProto(…).Err()` -/

inductive HandlerErr | none | status (code : Nat) (msg : String) | plain (text : String)
  deriving DecidableEq, Repr

/-- `WrapMessage`: `status.FromError(err)`; a non-status error becomes `Unknown` (code 2) with its text;
    nil becomes OK (code 0) -/
def wrapStatus : HandlerErr → Nat × String
  | .none => (0, "")
  | .status c m => (c, m)
  | .plain t => (2, t)

/-- the client side: `status.FromProto(st).Err()` is nil exactly for code OK -/
def unwrapStatus : Nat × String → Option (Nat × String)
  | (0, _) => Option.none
  | (c, m) => some (c, m)

theorem status_roundtrip (c : Nat) (m : String) (hc : c ≠ 0) :
    unwrapStatus (wrapStatus (.status c m)) = some (c, m) := by
  cases c with
  | zero => exact absurd rfl hc
  | succ c => rfl

theorem status_nil : unwrapStatus (wrapStatus .none) = Option.none := rfl
theorem status_plain (t : String) : unwrapStatus (wrapStatus (.plain t)) = some (2, t) := rfl

/-! non-vacuity -/
example : putUvarint 300 = [172, 2] := by simp [putUvarint]
example : consumeVarint ([172, 2] ++ [7]) = .ok (300, 2) := by rfl
example : consumeBytes ([3, 1, 2, 3] ++ [1, 9]) = ([1, 2, 3], 4) := by rfl
example : consumeBytes [5, 1] = ([], -1) := by rfl
example : consumeBytes [255, 255, 255, 255, 255, 255, 255, 255, 255, 2] = ([], -3) := by rfl

end GorumsV.C13
