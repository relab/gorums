import GorumsV.Model.MgrClose
import GorumsV.Props.NodeConnP
/-!
  C12, manager level: once `Manager.Close` has returned, every node of the pool is closed, no connection of any node
  is live, no dial is in progress, and that stays so whatever the nodes' senders do afterwards and however often Close
  is called again.  Needs the four node facts and "the loop reaches every node" (both read from the tree); without the
  latter a node can be left open (counterexample).
-/
theorem GorumsV.MgrClose.isExec (P : GorumsV.MgrClose.Params) :
    GorumsV.Lts.IsExec (GorumsV.MgrClose.step P) (GorumsV.MgrClose.exec P) := ⟨fun _ => rfl, fun _ _ _ => rfl⟩

namespace GorumsV.MgrCloseP
open GorumsV.MgrClose

/-- what a successful step is: a step of one node (a `close` of the node Close's loop is at moves the loop on), a
    further call of Close, or the return of Close -/
theorem step_cases (P : Params) (s s' : St) (l : Label) (h : step P s l = some s') :
    (∃ i x x' nl, s.nodes[i]? = some x ∧ NodeConn.step P.node x nl = some x' ∧
        (s' = { s with nodes := s.nodes.set i x' } ∨
         s.returned = false ∧ i = s.next ∧ nl = .close ∧
           s' = { s with nodes := s.nodes.set i x', next := s.next + 1 })) ∨
    s' = { s with closing := true } ∨
    (s.returned = false ∧ (P.reachesAll = true → s.nodes.length ≤ s.next) ∧ s' = { s with returned := true }) := by
  have guard : ∀ {o : Option St}, (if (!s.closing || s.returned) = true then none else o) = some s' →
      s.returned = false ∧ o = some s' := by
    intro o h
    split at h
    · cases h
    · exact ⟨by simp_all, h⟩
  have node : ∀ {i : Nat} {nl} {f : NodeConn.St → St},
      (match s.nodes[i]? with
        | none => none
        | some x => (NodeConn.step P.node x nl).map f) = some s' →
      ∃ x x', s.nodes[i]? = some x ∧ NodeConn.step P.node x nl = some x' ∧ s' = f x' := by
    intro i nl f h
    split at h
    · cases h
    · rename_i x hx
      obtain ⟨x', hn, rfl⟩ := Option.map_eq_some_iff.1 h
      exact ⟨x, x', hx, hn, rfl⟩
  cases l with
  | dialBegin i | dialEnd i ok =>
    obtain ⟨x, x', hx, hn, rfl⟩ := node h
    exact .inl ⟨i, x, x', _, hx, hn, .inl rfl⟩
  | closeCall =>
    cases h
    exact .inr (.inl rfl)
  | closeNext =>
    obtain ⟨hr, h⟩ := guard h
    obtain ⟨x, x', hx, hn, rfl⟩ := node h
    exact .inl ⟨_, x, x', _, hx, hn, .inr ⟨hr, rfl, rfl, rfl⟩⟩
  | closeReturn =>
    obtain ⟨hr, h⟩ := guard h
    split at h
    · cases h
    · rename_i hg
      cases h
      exact .inr (.inr ⟨hr, fun hra => by simpa [hra] using hg, rfl⟩)

def J (P : Params) (n : Nat) (s : St) : Prop :=
  s.nodes.length = n ∧ (∀ x ∈ s.nodes, NodeConn.Reachable P.node x) ∧
  (∀ i, i < s.next → ∀ x, s.nodes[i]? = some x → x.closed = true) ∧
  (s.returned = true → P.reachesAll = true → s.nodes.length ≤ s.next)

theorem J_init (P : Params) (n : Nat) : J P n (init n) := by
  refine ⟨by simp [init], ?_, ?_, ?_⟩
  · intro x hx
    cases List.eq_of_mem_replicate hx
    exact ⟨[], rfl⟩
  · intro i hi; cases hi
  · intro hr; cases hr

theorem J_step (P : Params) (n : Nat) (s s' : St) (l : Label) (hJ : J P n s) (h : step P s l = some s') :
    J P n s' := by
  obtain ⟨j1, j2, j3, j4⟩ := hJ
  rcases step_cases P s s' l h with ⟨i, x, x', nl, hx, hn, hs'⟩ | rfl | ⟨_, hle, rfl⟩
  · have hxm : x ∈ s.nodes := List.mem_iff_getElem?.2 ⟨i, hx⟩
    -- both kinds of node step set node `i` and leave `returned`; the loop stays, or it was a `close` at `i = next`
    obtain ⟨hnodes, hret, hnext⟩ : s'.nodes = s.nodes.set i x' ∧ s'.returned = s.returned ∧
        (s'.next = s.next ∨ i = s.next ∧ nl = .close ∧ s'.next = s.next + 1) := by
      rcases hs' with rfl | ⟨_, hi, hnl, rfl⟩
      · exact ⟨rfl, rfl, .inl rfl⟩
      · exact ⟨rfl, rfl, .inr ⟨hi, hnl, rfl⟩⟩
    unfold J
    rw [hnodes, hret, List.length_set]
    refine ⟨j1, ?_, ?_, ?_⟩
    · intro y hy
      rcases List.mem_or_eq_of_mem_set hy with hy | rfl
      · exact j2 y hy
      · exact (NodeConn.isExec P.node).reachable_step (j2 x hxm) hn
    · intro k hk y hy
      by_cases hik : i = k
      · -- the node that moved: closed before and still, or just closed by Close's loop
        subst hik
        rw [List.getElem?_set_self (List.getElem?_eq_some_iff.1 hx).1] at hy
        cases hy
        refine (NodeConnP.step_closed P.node x x' nl hn).2 ?_
        rcases hnext with hnext | ⟨_, hnl, _⟩
        · exact Or.inl (j3 i (hnext ▸ hk) x hx)
        · exact Or.inr hnl
      · rw [List.getElem?_set_ne hik] at hy
        exact j3 k (by omega) y hy
    · intro hr hra
      have := j4 hr hra
      omega
  · exact ⟨j1, j2, j3, j4⟩
  · exact ⟨j1, j2, j3, fun _ hra => hle hra⟩

theorem J_reachable (P : Params) (n : Nat) (s : St) (h : Reachable P n s) : J P n s :=
  (isExec P).reachable_invariant (J_init P n) (J_step P n) h

theorem returned_step (P : Params) (s s' : St) (l : Label) (hr : s.returned = true) (h : step P s l = some s') :
    s'.returned = true := by
  rcases step_cases P s s' l h with ⟨_, _, _, _, _, _, rfl | ⟨_, _, _, rfl⟩⟩ | rfl | ⟨_, _, rfl⟩
  · exact hr
  · exact hr
  · exact hr
  · rfl

/-- every node of a reachable pool state is a reachable node-connection state -/
theorem nodes_reachable (P : Params) (n : Nat) (s : St) (h : Reachable P n s) :
    s.nodes.length = n ∧ ∀ x ∈ s.nodes, NodeConn.Reachable P.node x := by
  have hJ := J_reachable P n s h
  exact ⟨hJ.1, hJ.2.1⟩

/-- the nodes the loop has passed are closed -/
theorem passed_are_closed (P : Params) (hP : P.Good) (n : Nat) (s : St) (h : Reachable P n s) :
    ∀ i, i < s.next → ∀ x, s.nodes[i]? = some x → x.closed = true := by
  have _ := hP   -- not needed: close sets `closed` and dial keeps it whatever the node facts are
  exact (J_reachable P n s h).2.2.1

/-- **after Close has returned every node is closed and no connection is live** -/
theorem returned_all_closed (P : Params) (hP : P.Good) (n : Nat) (s : St) (h : Reachable P n s) (hr : s.returned = true) :
    ∀ x ∈ s.nodes, x.closed = true ∧ x.live = [] ∧ x.dialing = false := by
  obtain ⟨_, j2, j3, j4⟩ := J_reachable P n s h
  intro x hx
  obtain ⟨i, hi⟩ := List.getElem?_of_mem hx
  have hlt : i < s.nodes.length := (List.getElem?_eq_some_iff.1 hi).1
  have hle := j4 hr hP.2
  have hc : x.closed = true := j3 i (by omega) x hi
  exact ⟨hc, NodeConnP.closed_no_live P.node hP.1 x (j2 x hx) hc⟩

/-- … and that is final: whatever happens afterwards (dials, further Close calls) -/
theorem returned_is_final (P : Params) (hP : P.Good) (n : Nat) (s : St) (h : Reachable P n s) (hr : s.returned = true)
    (ls : List Label) (s' : St) (he : exec P s ls = some s') :
    s'.returned = true ∧ ∀ x ∈ s'.nodes, x.closed = true ∧ x.live = [] := by
  have hr' : s'.returned = true := (isExec P).invariant (returned_step P) hr he
  refine ⟨hr', ?_⟩
  intro x hx
  have := returned_all_closed P hP n s' ((isExec P).reachable_exec h he) hr' x hx
  exact ⟨this.1, this.2.1⟩

def good : Params := { node := NodeConnP.good, reachesAll := true }
theorem good_good : good.Good := ⟨NodeConnP.good_good, rfl⟩

/-- non-vacuity: three nodes, two of them connected, a dial in progress on node 1 delays its close, Close returns -/
example : (exec good (init 3) [.dialBegin 0, .dialEnd 0 true, .dialBegin 1, .closeCall, .closeNext, .dialEnd 1 true, .closeNext, .closeNext, .closeReturn, .closeCall, .dialBegin 2]).map
    (fun s => (s.returned, s.nodes.map (fun x => (x.closed, x.live)))) = some (true, [(true, []), (true, []), (true, [])]) := by decide

/-- the loop must reach every node: with an early exit a node keeps its connection after Close has returned -/
theorem needs_reachesAll : ∃ s, exec { good with reachesAll := false } (init 2) [.dialBegin 1, .dialEnd 1 true, .closeCall, .closeNext, .closeReturn] = some s ∧
    s.returned = true ∧ (s.nodes.map (·.live)) = [[], [0]] :=
  ⟨_, rfl, rfl, rfl⟩

end GorumsV.MgrCloseP
