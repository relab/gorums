import GorumsV.Model.WatchConc
import GorumsV.Lemmas.Correctable
import GorumsV.Lemmas.Lts
/-!
  C11, the concurrency of `Watch`: with Watch and set as single steps (what the tree does: one exclusive critical section
  each) no watcher is ever stranded — open although its level has been published or the call is completed — whatever
  the interleaving of Watch calls and publications (also non-monotone ones); with a Watch whose test and registration
  are separate steps a publication between the two strands the watcher, for good if the call completed.
-/
theorem GorumsV.WatchConc.isExec (a : Bool) : GorumsV.Lts.IsExec (GorumsV.WatchConc.step a) (GorumsV.WatchConc.exec a) :=
  ⟨fun _ => rfl, fun _ _ _ => rfl⟩


namespace GorumsV.WatchConcP
open GorumsV.WatchConc GorumsV.Correctable

/-- the invariant of the atomic Watch: an open watcher is still waiting -/
def Inv (s : St) : Prop :=
  ∀ w ∈ s.obj.watchers, w.closed = false → ¬ (w.level ≤ s.obj.level) ∧ s.obj.done = false

theorem inv_init : Inv WatchConc.init := by
  intro w hw
  simp [WatchConc.init] at hw

theorem inv_step {s s' : St} {l : Label} (hi : Inv s) (h : step true s l = some s') : Inv s' := by
  cases l with
  | watch l =>
    simp [step] at h
    subst h
    intro w hw ho
    rcases Obj.watcher_of_watch hw with hw | ⟨rfl, hc⟩
    · exact hi w hw ho
    · exact (by simpa [ho, not_or] using hc : ¬ w.level ≤ s.obj.level ∧ s.obj.done = false)
  | test l | register l => simp [step] at h
  | publish level done =>
    -- `set` closes every watcher at or below the published level, all of them at completion
    obtain ⟨o', hs, rfl⟩ := Option.map_eq_some_iff.1 h
    intro w hw ho
    obtain ⟨_, rfl⟩ := Obj.set_eq_some_iff.1 hs
    have hc := mt (Obj.closed_of_set hs hw) (by simp [ho])
    exact ⟨fun hle => hc (.inr hle), by simpa using fun hd => hc (.inl hd)⟩

theorem inv_reachable {s : St} (h : Reachable true s) : Inv s :=
  (WatchConc.isExec true).reachable_invariant inv_init (fun _ _ _ hi h => inv_step hi h) h

/-- **no stranded watcher, for every interleaving of Watch calls and publications** -/
theorem atomic_never_stranded (s : St) (h : Reachable true s) : stranded s = false := by
  have hi := inv_reachable h
  unfold stranded
  rw [List.any_eq_false]
  intro w hw
  cases hc : w.closed with
  | true => simp
  | false =>
    have := hi w hw hc
    simp [this.1, this.2]

/-- … stated per watcher: an open watcher's level has not been reached and the call is not completed -/
theorem atomic_open_means_waiting (s : St) (h : Reachable true s) (w : Watcher) (hw : w ∈ s.obj.watchers)
    (ho : w.closed = false) : ¬ (w.level ≤ s.obj.level) ∧ s.obj.done = false :=
  inv_reachable h w hw ho

/-- the two-step Watch strands a watcher when a publication falls between its test and its registration -/
theorem twostep_strands :
    ∃ s, exec false init [.test 1, .publish 1 false, .register 1] = some s ∧ stranded s = true :=
  ⟨_, rfl, by decide⟩

/-- … for good when that publication completed the call: nothing can be published any more -/
theorem twostep_strands_for_good :
    ∃ s, exec false init [.test 2, .publish 0 true, .register 2] = some s ∧ stranded s = true ∧
      ∀ level done, step false s (.publish level done) = none :=
  ⟨_, rfl, by decide, fun _ _ => rfl⟩

/-- non-vacuity of the atomic case: watchers at three levels, two publications, the completion -/
example : (exec true init [.watch 1, .watch 2, .publish 1 false, .watch 1, .watch 3, .publish 0 true, .watch 5]).map
    (fun s => (s.obj.watchers.map (·.closed), stranded s)) = some ([true, true, true, true, true], false) := rfl

end GorumsV.WatchConcP
