import GorumsV.Lemmas.ReplyLoop
/-!
  C02 — a quorum call ends exactly on quorum, exhaustion (Incomplete) or context end.

  `verdict` is the declarative reading of the property: what a history decides
  when looked at *as a whole* (its last element, the set of replies, the list of
  errors — all computed by folds over the history, not by the loop's state).
  `spec` = the verdict of the shortest prefix that has one, otherwise `waiting` —
  where an Incomplete verdict at the very moment at which the context has ended
  (its end is the next event) is reported as the context's error (`adjust`:
  the exhaustion branch consults the context, `incompleteCause`, errors.go).
  `run_decided` / `run_undecided` say what the loop does in those terms, for every
  parameter value: it stops at the first prefix that has a verdict, having shown the
  quorum function the reply sets of that prefix (`C01.replyLog`), and waits if there is
  none; `run_eq_spec` and the theorems of C01, C07, C08 are read off these two.  The
  remaining theorems read the verdict under the *good* parameter values, which the tie
  lemmas (Tie/C02.lean) establish for the expressions found in the tree.
-/
namespace GorumsV.C02
open GorumsV.ReplyLoop
variable {M E R : Type}

/-- What the history `pre`, taken as a whole, decides (if anything). -/
def verdict (P : Params) (qf : RepMap M → R × Bool) (expected : Nat) (pre : List (Arrival M E)) :
    Option (Outcome R E) :=
  match pre.getLast? with
  | none => if P.preCheck && P.exhausted 0 0 expected then some (.incomplete [] 0) else none
  | some (.ctxDone c) => some (.ctxErr c (errsOf pre) (replySet pre).length)
  | some (.error _ _) =>
      if P.exhausted (errsOf pre).length (replySet pre).length expected
      then some (.incomplete (errsOf pre) (replySet pre).length) else none
  | some (.reply _ _) =>
      if (qf (replySet pre)).2 then some (.ok (qf (replySet pre)).1)
      else if P.exhausted (errsOf pre).length (replySet pre).length expected
      then some (.incomplete (errsOf pre) (replySet pre).length) else none

/-- An Incomplete verdict is reported as the context's error when the context has ended,
    i.e. when its end is the next event (`rest` = the history after the deciding prefix). -/
def adjust (P : Params) (rest : List (Arrival M E)) : Outcome R E → Outcome R E
  | .incomplete errs n => exhaustedOutcome P errs n rest
  | o => o

/-- the verdict of the prefix `p` of the history `as`, as reported -/
def verdictAt (P : Params) (qf : RepMap M → R × Bool) (expected : Nat) (as p : List (Arrival M E)) :
    Option (Outcome R E) :=
  (verdict P qf expected p).map (adjust P (as.drop p.length))

/-- The outcome the property prescribes for a history. -/
def spec (P : Params) (qf : RepMap M → R × Bool) (expected : Nat) (as : List (Arrival M E)) : Outcome R E :=
  ((prefixes as).findSome? (verdictAt P qf expected as)).getD .waiting

section Loop
open GorumsV.C01

/-- one iteration of the loop, from the state reached by consuming `pre`: a verdict of `pre ++ [a]` ends
    the loop; without one it goes on -/
theorem loop_cons (P : Params) (qf : RepMap M → R × Bool) (x : Nat) (pre : List (Arrival M E)) (a : Arrival M E)
    (as : List (Arrival M E)) :
    loop P qf x ⟨errsOf pre, replySet pre⟩ (a :: as) =
      let shown := if endsInReply (pre ++ [a]) then [replySet (pre ++ [a])] else []
      match verdict P qf x (pre ++ [a]) with
      | some o => (adjust P as o, shown)
      | none =>
        let r := loop P qf x ⟨errsOf (pre ++ [a]), replySet (pre ++ [a])⟩ as
        (r.1, shown ++ r.2) := by
  cases a with
  | ctxDone c => simp [loop, verdict, adjust, errsOf]
  | error n c =>
    by_cases h : P.exhausted ((errsOf pre).length + 1) (replySet pre).length x <;>
      simp [loop, verdict, adjust, errsOf, h]
  | reply n m =>
    cases hq : qf ((replySet pre).insert n m) with
    | mk v q =>
      by_cases h : P.exhausted (errsOf pre).length ((replySet pre).insert n m).length x <;>
        cases q <;> simp [loop, verdict, adjust, errsOf, h, hq]

/-- before the first arrival: the pre-check is the verdict of the empty history -/
theorem run_eq (P : Params) (qf : RepMap M → R × Bool) (x : Nat) (as : List (Arrival M E)) :
    run P qf x as = match verdict P qf x [] with
      | some o => (adjust P as o, [])
      | none => loop P qf x {} as := by
  by_cases h : (P.preCheck && P.exhausted 0 0 x) = true <;> simp [run, verdict, adjust, h]

variable {P : Params} {qf : RepMap M → R × Bool} {x : Nat}

theorem run_append {p : List (Arrival M E)} (s : List (Arrival M E)) (h : ∀ q ∈ prefixes p, verdict P qf x q = none) :
    run P qf x (p ++ s) =
      ((loop P qf x ⟨errsOf p, replySet p⟩ s).1, replyLog p ++ (loop P qf x ⟨errsOf p, replySet p⟩ s).2) := by
  induction p using List.snoc_induction generalizing s with
  | nil => rw [List.nil_append, run_eq, h [] (by simp [prefixes])]; rfl
  | snoc p a ih =>
    rw [List.append_assoc, ih _ fun q hq => h q (by simp [prefixes_concat, hq]), List.singleton_append, loop_cons,
      h _ (by simp [prefixes_concat]), replyLog_concat, List.append_assoc]

/-- **no verdict, no end**: after a history no prefix of which has a verdict the call is waiting -/
theorem run_undecided {as : List (Arrival M E)} (h : ∀ q ∈ prefixes as, verdict P qf x q = none) :
    run P qf x as = (.waiting, replyLog as) := by
  simpa [loop] using run_append [] h

theorem run_decided_next {p : List (Arrival M E)} {a : Arrival M E} {o : Outcome R E} (s : List (Arrival M E))
    (h : ∀ q ∈ prefixes p, verdict P qf x q = none) (hv : verdict P qf x (p ++ [a]) = some o) :
    run P qf x (p ++ a :: s) = (adjust P s o, replyLog (p ++ [a])) := by
  rw [run_append _ h, loop_cons, hv, replyLog_concat]

/-- **the first verdict ends the call**, with the outcome it prescribes (`adjust`: the exhaustion branch
    consults the context), after the quorum function has been shown the reply sets of that prefix -/
theorem run_decided {p : List (Arrival M E)} {o : Outcome R E} (s : List (Arrival M E))
    (h : ∀ q ∈ prefixes p, q ≠ p → verdict P qf x q = none) (hv : verdict P qf x p = some o) :
    run P qf x (p ++ s) = (adjust P s o, replyLog p) := by
  rcases List.eq_nil_or_snoc p with rfl | ⟨p, a, rfl⟩
  · rw [List.nil_append, run_eq, hv]; rfl
  · rw [List.append_assoc, List.singleton_append]
    refine run_decided_next s (fun q hq => h q (by simp [prefixes_concat, hq]) ?_) hv
    rintro rfl
    exact absurd (mem_prefixes.1 hq).length_le (by simp)

end Loop

theorem run_cases (P : Params) (qf : RepMap M → R × Bool) (x : Nat) (as : List (Arrival M E)) :
    ((∀ q ∈ prefixes as, verdict P qf x q = none) ∧ run P qf x as = (.waiting, C01.replyLog as)) ∨
    ∃ p s o, as = p ++ s ∧ (∀ q ∈ prefixes p, q ≠ p → verdict P qf x q = none) ∧ verdict P qf x p = some o ∧
      run P qf x as = (adjust P s o, C01.replyLog p) := by
  cases hf : (prefixes as).findSome? (verdict P qf x) with
  | none =>
    have h := List.findSome?_eq_none_iff.1 hf
    exact .inl ⟨h, run_undecided h⟩
  | some o =>
    obtain ⟨p, s, rfl, h, hv⟩ := findSome?_prefixes_eq_some hf
    exact .inr ⟨p, s, o, rfl, h, hv, run_decided s h hv⟩

/-- **The loop computes the spec**, for every parameter value, quorum function,
    number of targeted nodes and history. -/
theorem run_eq_spec (P : Params) (qf : RepMap M → R × Bool) (expected : Nat) (as : List (Arrival M E)) :
    (run P qf expected as).1 = spec P qf expected as := by
  unfold spec
  cases hf : (prefixes as).findSome? (verdictAt P qf expected as) with
  | none =>
    have h : ∀ q ∈ prefixes as, verdict P qf expected q = none := fun q hq => by
      simpa [verdictAt] using List.findSome?_eq_none_iff.1 hf q hq
    rw [run_undecided h]
    rfl
  | some b =>
    obtain ⟨p, s, rfl, h, hb⟩ := findSome?_prefixes_eq_some hf
    obtain ⟨o, hv, rfl⟩ : ∃ o, verdict P qf expected p = some o ∧ adjust P s o = b := by simpa [verdictAt] using hb
    rw [run_decided s (fun q hq hne => by simpa [verdictAt] using h q hq hne) hv]
    rfl

/-- number of nodes that have answered (reply or error) in a history -/
def answered (pre : List (Arrival M E)) : Nat := (errsOf pre).length + (replySet pre).length

section Verdict
variable {P : Params} {qf : RepMap M → R × Bool} {x : Nat} {p : List (Arrival M E)} {o : Outcome R E}

theorem verdict_ctxDone (pre : List (Arrival M E)) (c : E) :
    verdict P qf x (pre ++ [.ctxDone c]) = some (.ctxErr c (errsOf pre) (replySet pre).length) := by
  simp [verdict, errsOf]

theorem verdict_of_quorum (he : C01.endsInReply p = true) (hq : (qf (replySet p)).2 = true) :
    verdict P qf x p = some (.ok (qf (replySet p)).1) := by
  unfold C01.endsInReply at he
  split at he
  · rename_i hl
    simp [verdict, hl, hq]
  · cases he

theorem verdict_cases (h : verdict P qf x p = some o) :
    (o = .incomplete (errsOf p) (replySet p).length ∧
      P.exhausted (errsOf p).length (replySet p).length x = true) ∨
    (∃ pre c, p = pre ++ [.ctxDone c] ∧ o = .ctxErr c (errsOf pre) (replySet pre).length) ∨
    (C01.endsInReply p = true ∧ (qf (replySet p)).2 = true ∧ o = .ok (qf (replySet p)).1) := by
  -- every branch of `verdict` but two is an `if c then some _ else none`
  rcases List.eq_nil_or_snoc p with rfl | ⟨pre, a, rfl⟩
  · simp only [verdict, List.getLast?_nil, Option.ite_none_right_eq_some, Option.some.injEq, Bool.and_eq_true] at h
    exact .inl ⟨h.2.symm, h.1.2⟩
  · cases a with
    | ctxDone c =>
      rw [verdict_ctxDone] at h
      exact .inr (.inl ⟨pre, c, rfl, (Option.some.inj h).symm⟩)
    | error n c =>
      simp only [verdict, List.getLast?_concat, Option.ite_none_right_eq_some, Option.some.injEq] at h
      exact .inl ⟨h.2.symm, h.1⟩
    | reply n m =>
      simp only [verdict, List.getLast?_concat] at h
      split at h
      · exact .inr (.inr ⟨by simp, ‹_›, (Option.some.inj h).symm⟩)
      · rw [Option.ite_none_right_eq_some, Option.some.injEq] at h
        exact .inl ⟨h.2.symm, h.1⟩

theorem verdict_incomplete (hP : P.Good) {errs : List (NodeId × E)} {k : Nat}
    (h : verdict P qf x p = some (.incomplete errs k)) :
    errs = errsOf p ∧ k = (replySet p).length ∧ answered p = x := by
  rcases verdict_cases h with ⟨h, hx⟩ | ⟨_, _, _, h⟩ | ⟨_, _, h⟩ <;> cases h
  exact ⟨rfl, rfl, by simpa [hP.1, answered] using hx⟩

theorem adjust_eq {rest : List (Arrival M E)} {o' : Outcome R E} (h : adjust P rest o = o') :
    o = o' ∨ ∃ errs n c post, o = .incomplete errs n ∧ rest = .ctxDone c :: post ∧ o' = .ctxErr c errs n := by
  cases o with
  | incomplete errs n =>
    rcases exhaustedOutcome_cases (R := R) P errs n rest with h' | ⟨c, post, hr, _, h'⟩
    · exact .inl (h'.symm.trans h)
    · exact .inr ⟨errs, n, c, post, rfl, hr, h.symm.trans h'⟩
  | _ => exact .inl h

end Verdict

theorem verdict_ne_waiting (P : Params) (qf : RepMap M → R × Bool) (expected : Nat) (p : List (Arrival M E)) :
    verdict P qf expected p ≠ some .waiting := by
  intro h
  rcases verdict_cases h with ⟨h, _⟩ | ⟨_, _, _, h⟩ | ⟨_, _, h⟩ <;> cases h

/-- Under the good parameters a history has *no* verdict exactly when: its last
    element is not a context end, not a reply on which QF reports a quorum, and
    the number of answers differs from the number of targeted nodes. -/
theorem verdict_none_iff (P : Params) (hP : P.Good) (qf : RepMap M → R × Bool) (expected : Nat)
    (pre : List (Arrival M E)) :
    verdict P qf expected pre = none ↔
      (∀ c, pre.getLast? ≠ some (.ctxDone c)) ∧
      (∀ n m, pre.getLast? = some (.reply n m) → (qf (replySet pre)).2 = false) ∧
      answered pre ≠ expected := by
  obtain ⟨hex, hpre, _⟩ := hP
  rcases List.eq_nil_or_snoc pre with rfl | ⟨pre, a, rfl⟩
  · simp [verdict, answered, hex, hpre, errsOf, replySet, addReplies]
  · cases a with
    | ctxDone c => simp [verdict]
    | error n c => simp [verdict, answered, hex]
    | reply n m => cases hq : (qf ((replySet pre).insert n m)).2 <;> simp [verdict, answered, hex, hq]

/-- an outcome other than `waiting` is the (reported) verdict of a prefix of the history -/
theorem spec_verdict {P : Params} {qf : RepMap M → R × Bool} {expected : Nat} {as : List (Arrival M E)}
    {o : Outcome R E} (h : spec P qf expected as = o) (ho : o ≠ .waiting) :
    ∃ p ∈ prefixes as, ∃ o', verdict P qf expected p = some o' ∧ adjust P (as.drop p.length) o' = o := by
  rw [← run_eq_spec] at h
  rcases run_cases P qf expected as with ⟨_, hr⟩ | ⟨p, s, o', rfl, _, hv, hr⟩
  · exact absurd (h.symm.trans (congrArg Prod.fst hr)) ho
  · exact ⟨p, mem_prefixes.2 (List.prefix_append p s), o', hv, by rw [List.drop_left, ← h, hr]⟩

/-- an Incomplete outcome is the Incomplete verdict of a prefix of the history -/
theorem run_incomplete_verdict {P : Params} {qf : RepMap M → R × Bool} {expected : Nat}
    {as : List (Arrival M E)} {errs : List (NodeId × E)} {n : Nat}
    (h : (run P qf expected as).1 = .incomplete errs n) :
    ∃ p ∈ prefixes as, verdict P qf expected p = some (.incomplete errs n) := by
  rw [run_eq_spec] at h
  obtain ⟨p, hp, o', hv, ha⟩ := spec_verdict h (by simp)
  rcases adjust_eq ha with rfl | ⟨_, _, _, _, _, _, h'⟩
  · exact ⟨p, hp, hv⟩
  · cases h'

/-- **Never keeps waiting**: the call is still waiting after a history only if no
    prefix of it (the empty one included: also when nothing is targeted) contains
    a reason to stop. -/
theorem waiting_iff (P : Params) (qf : RepMap M → R × Bool) (expected : Nat) (as : List (Arrival M E)) :
    (run P qf expected as).1 = .waiting ↔
      ∀ p ∈ prefixes as, verdict P qf expected p = none ∨ verdict P qf expected p = some .waiting := by
  refine ⟨fun hw => ?_, fun h => congrArg Prod.fst (run_undecided fun p hp =>
    (h p hp).resolve_right (verdict_ne_waiting P qf expected p))⟩
  rcases run_cases P qf expected as with ⟨h, _⟩ | ⟨p, s, o, rfl, _, hv, hr⟩
  · exact fun q hq => .inl (h q hq)
  · -- a verdict is not `waiting`, nor is what is reported for it
    rw [hr] at hw
    rcases adjust_eq hw with rfl | ⟨_, _, _, _, _, _, h'⟩
    · exact absurd hv (verdict_ne_waiting P qf expected p)
    · cases h'

/-- **Incomplete accounting**: under the good parameters an Incomplete outcome
    reports numbers of errors and replies that add up to the number of targeted
    nodes. -/
theorem incomplete_accounting (P : Params) (hP : P.Good) (qf : RepMap M → R × Bool) (expected : Nat)
    (as : List (Arrival M E)) (errs : List (NodeId × E)) (n : Nat)
    (h : (run P qf expected as).1 = .incomplete errs n) : errs.length + n = expected := by
  obtain ⟨q, _, hq⟩ := run_incomplete_verdict h
  obtain ⟨rfl, rfl, hx⟩ := verdict_incomplete hP hq
  exact hx

/-- **Zero targeted nodes**: under the good parameters a call that targets no
    node ends at once, whatever arrives: Incomplete — or the context's error if the
    context has already ended. -/
theorem zero_targets (P : Params) (hP : P.Good) (qf : RepMap M → R × Bool) (as : List (Arrival M E)) :
    (run P qf 0 as).1 = (match as with | .ctxDone c :: _ => .ctxErr c [] 0 | _ => .incomplete [] 0) := by
  have h2 : (run P qf 0 as).1 = exhaustedOutcome P [] 0 as := by
    obtain ⟨hex, hpre, _⟩ := hP
    simp [run, hpre, hex]
  exact h2.trans (exhaustedOutcome_good hP [] 0 as)

theorem zero_targets_not_waiting (P : Params) (hP : P.Good) (qf : RepMap M → R × Bool) (as : List (Arrival M E)) :
    (run P qf 0 as).1 ≠ .waiting := by
  rw [zero_targets P hP]
  split <;> simp

/-- Why the pre-check matters: without it a call that targets nothing waits
    (until its context ends).  This is the defect of the pinned tree (D1). -/
theorem zero_targets_needs_precheck (P : Params) (hpre : P.preCheck = false) (qf : RepMap M → R × Bool) :
    (run P qf 0 ([] : List (Arrival M E))).1 = .waiting := by
  simp [run, hpre, loop]

/-- **Context end**: if the context ends right after a history that had no
    verdict, the outcome is the context's error with the counts so far. -/
theorem ctx_outcome (P : Params) (qf : RepMap M → R × Bool) (expected : Nat)
    (pre post : List (Arrival M E)) (c : E)
    (hpre : ∀ p ∈ prefixes pre, verdict P qf expected p = none) :
    (run P qf expected (pre ++ .ctxDone c :: post)).1 = .ctxErr c (errsOf pre) (replySet pre).length := by
  rw [run_decided_next post hpre (verdict_ctxDone pre c)]
  rfl

/-- **Exhaustion**: if a history `pre` is the first to have a verdict and that verdict is
    Incomplete, the outcome is Incomplete with those lists — unless the context has ended by
    then (its end is the next event), in which case, under the good parameters, the outcome is
    the context's error with the same lists ("the context's error when the context ends first"). -/
theorem exhaustion_outcome (P : Params) (hP : P.Good) (qf : RepMap M → R × Bool) (expected : Nat)
    (pre post : List (Arrival M E)) (errs : List (NodeId × E)) (n : Nat)
    (hpre : ∀ p ∈ prefixes pre, p ≠ pre → verdict P qf expected p = none)
    (hv : verdict P qf expected pre = some (.incomplete errs n)) :
    (run P qf expected (pre ++ post)).1 =
      (match post with | .ctxDone c :: _ => .ctxErr c errs n | _ => .incomplete errs n) := by
  rw [run_decided post hpre hv]
  exact exhaustedOutcome_good hP errs n post

/-- Why the parameter matters: a loop whose exhaustion branch does not consult the context
    reports Incomplete although the context had ended (the defect repaired by the C08 "fix:"
    commit `incompleteCause`). -/
theorem exhaustion_needs_ctxCause (P : Params) (hc : P.ctxCause = false) (hpre : P.preCheck = true)
    (hex : ∀ e r x, P.exhausted e r x = decide (e + r = x)) (qf : RepMap M → R × Bool) (c : E) :
    (run P qf 0 ([.ctxDone c] : List (Arrival M E))).1 = .incomplete [] 0 := by
  simp [run, hpre, hex, exhaustedOutcome, hc]

/-- **Success**: a reply on which QF reports a quorum, after a history without
    verdict, yields exactly QF's value. -/
theorem ok_outcome (P : Params) (qf : RepMap M → R × Bool) (expected : Nat)
    (pre post : List (Arrival M E)) (n : NodeId) (m : M)
    (hpre : ∀ p ∈ prefixes pre, verdict P qf expected p = none)
    (hq : (qf (replySet (pre ++ [.reply n m]))).2 = true) :
    (run P qf expected (pre ++ .reply n m :: post)).1 = .ok (qf (replySet (pre ++ [.reply n m]))).1 := by
  rw [run_decided_next post hpre (verdict_of_quorum (by simp) hq)]
  rfl

/-! ### futures (async.go) -/

/-- the future completes under the same rule as the synchronous call -/
theorem async_same_as_sync (P : Params) (qf : RepMap M → R × Bool) (expected : Nat) (as : List (Arrival M E)) :
    (runAsync P qf expected as).1.result =
      (match (run P qf expected as).1 with | .waiting => none | o => some o) := by
  unfold runAsync
  split <;> simp_all

theorem async_done_iff (P : Params) (qf : RepMap M → R × Bool) (expected : Nat) (as : List (Arrival M E)) :
    (runAsync P qf expected as).1.done = true ↔ (run P qf expected as).1 ≠ .waiting := by
  unfold Async.done
  rw [async_same_as_sync]
  split <;> simp_all

/-- `Get` yields the same outcome on every invocation -/
theorem async_get_stable (f : Async R E) : (f.get.2).get.1 = f.get.1 ∧ f.get.2 = f := by
  simp [Async.get]

/-! ### non-vacuity: concrete histories exercising every outcome -/

def P₁ : Params := { exhausted := fun e r x => decide (e + r = x), preCheck := true, ctxCause := true }
theorem P₁_good : P₁.Good := ⟨fun _ _ _ => rfl, rfl, rfl⟩
/-- threshold-2 quorum function returning the number of replies -/
def qf2 : RepMap Nat → Nat × Bool := fun r => (r.length, decide (2 ≤ r.length))

example : (run P₁ qf2 3 [.reply 1 10, .error 2 "x", .reply 3 30] : Outcome Nat String × _).1 = .ok 2 := rfl
example : (run P₁ qf2 3 [.reply 1 10, .error 2 "x", .error 3 "y"] : Outcome Nat String × _).1
    = .incomplete [(2, "x"), (3, "y")] 1 := rfl
example : (run P₁ qf2 3 [.reply 1 10, .ctxDone "canceled", .reply 3 30] : Outcome Nat String × _).1
    = .ctxErr "canceled" [] 1 := rfl
example : (run P₁ qf2 3 [.reply 1 10] : Outcome Nat String × _).1 = .waiting := rfl
example : (run P₁ qf2 0 [] : Outcome Nat String × _).1 = .incomplete [] 0 := rfl
example : (run P₁ qf2 0 [.ctxDone "canceled"] : Outcome Nat String × _).1 = .ctxErr "canceled" [] 0 := rfl
example : (run P₁ qf2 2 [.error 1 "x", .error 2 "y", .ctxDone "canceled"] : Outcome Nat String × _).1
    = .ctxErr "canceled" [(1, "x"), (2, "y")] 0 := rfl
example : (run P₁ qf2 2 [.error 1 "x", .error 2 "y", .reply 3 1, .ctxDone "canceled"] : Outcome Nat String × _).1
    = .incomplete [(1, "x"), (2, "y")] 0 := rfl

end GorumsV.C02
