import GorumsV.Props.NetInv
/-!
  End-to-end statements over the composite system `Net` (manager counter + calls + per node: channel,
  stream, server connection, handlers).  They close the gap the per-component theorems leave:
  *provenance* — the reply a call finds under node n is what n's handler computed from the payload this
  call addressed to n (C01, C05) — and *own message* — the payload a node's handler sees is the one some
  call addressed to that node (C06).  Everything the component theorems say (C03, C04, C05, C07, C18)
  holds of every node of the composite, because every node's channel is a reachable `Chan` state and
  every node's server connection a reachable `SrvConn` state (`chan_reachable`, `srv_reachable`).
-/
namespace GorumsV.NetP
open GorumsV.Net

/-- every node's channel is a reachable state of the channel model: all theorems of C05 / C07 / C18 apply to it -/
theorem chan_reachable (P : Params) (s : State) (h : Reachable P s) (n : NodeId) :
    Chan.Reachable (s.nodes n).chan :=
  ((inv_reachable P s h).node n).chanReach

/-- every node's server connection is a reachable state of the connection model: all theorems of C04 apply -/
theorem srv_reachable (P : Params) (s : State) (h : Reachable P s) (n : NodeId) :
    ∃ ls, SrvConn.exec SrvConn.init ls = some (s.nodes n).srv :=
  ((inv_reachable P s h).node n).srvReach

/-- the manager-wide counter: two calls never share an id, a call has one id -/
theorem ids_unique (P : Params) (s : State) (h : Reachable P s)
    (c c' : Chan.CallId) (i i' : Chan.MsgId) (h1 : (c, i) ∈ s.calls) (h2 : (c', i') ∈ s.calls) :
    (i = i' ↔ c = c') ∧ i < s.nextId :=
  have hi := inv_reachable P s h
  ⟨⟨hi.callsInj _ h1 _ h2, hi.callsFun _ h1 _ h2⟩, hi.callsFresh _ h1⟩

/-- a call addresses a node at most once, under the call's own id -/
theorem issue_unique (P : Params) (s : State) (h : Reachable P s) (a b : Issue)
    (ha : a ∈ s.issued) (hb : b ∈ s.issued) (hn : a.node = b.node) (hc : a.call = b.call ∨ a.id = b.id) : a = b := by
  have hi := inv_reachable P s h
  rcases hc with hc | hc
  · exact hi.issuedOnce a ha b hb hn hc
  · exact hi.issuedOnceId a b ha hb hn hc

theorem issue_has_call_id (P : Params) (s : State) (h : Reachable P s) (a : Issue) (ha : a ∈ s.issued) :
    (a.call, a.id) ∈ s.calls :=
  (inv_reachable P s h).issuedCall a ha

/-- **own message (C06, end to end)**: the payload with which a handler runs on node n is the payload some
    call addressed to node n under that id -/
theorem server_receives_own_payload (P : Params) (s : State) (h : Reachable P s) (n : NodeId)
    (id : Chan.MsgId) (p : Payload) (hr : (id, p) ∈ (s.nodes n).running ∨ (id, p) ∈ (s.nodes n).up) :
    ∃ c, (⟨id, c, n, p⟩ : Issue) ∈ s.issued := by
  have hN := (inv_reachable P s h).node n
  rcases hr with hr | hr
  · exact hN.runningIssued (id, p) hr
  · exact hN.upIssued (id, p) hr

/-- **provenance (C01 / C05, end to end)**: when the server answers under the request's own id, every reply
    that node n's channel delivers to a call is what n's handler computed from the payload
    that very call addressed to n -/
theorem provenance (P : Params) (hP : P.Good) (s : State) (h : Reachable P s) (n : NodeId)
    (d : Chan.Delivery) (hd : d ∈ (s.nodes n).chan.deliveries) (v : Nat) (hv : d.resp = .reply v) :
    ∃ p, (⟨d.id, d.call, n, p⟩ : Issue) ∈ s.issued ∧ P.handler n p = .reply v :=
  ((inv_reachable P s h).node n).delivGenuine hP d hd v hv

/-- … and a call finds at most one such reply per node unless it asked for a stream -/
theorem one_reply_per_node (P : Params) (s : State) (h : Reachable P s) (n : NodeId)
    (id : Chan.MsgId) (c : Chan.CallId) (hreg : (id, c, false) ∈ (s.nodes n).chan.registered) :
    C05.countDeliveries (s.nodes n).chan id ≤ 1 :=
  C05.at_most_once _ (chan_reachable P s h n) id c hreg

/-- the id echo is needed: a server that answers request i under id i+1 hands call 2 the answer to call 1 -/
def badEcho : Params := { handler := fun _ p => .reply (p + 100), replyId := fun i => i + 1 }

def echoTrace : List Label :=
  [.newCall 1, .newCall 2, .target 1 0 7 false, .target 2 0 9 false,
   .chan 0 (.handoff 1), .chan 0 .pop, .send 0 false false, .srvRecv 0, .srvReply 0 1, .recv 0]

theorem echo_needed :
    (exec badEcho init echoTrace).map (fun s => (s.nodes 0).chan.deliveries) =
      some [⟨2, 2, .reply 107⟩] := by
  rfl

end GorumsV.NetP
