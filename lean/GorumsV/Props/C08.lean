import GorumsV.Props.C09
import GorumsV.Props.C02
/-!
  C08 — every call returns promptly once its context ends, whatever the nodes are doing
  (partial: wall-clock delay, scheduler fairness and transport time-outs are outside the model).

  In the models a call waits at exactly three kinds of places:
    (a) `responseMut` when it registers its router (enqueue) or deletes it (deferred, stream calls);
    (b) the hand-off to the sender — a `select` that contains the call's own context
        (T2: digest of `enqueue`; this case is the repair of defect D2);
    (c) its reply loop / send-confirmation wait — a `select` that contains the context
        (ReplyLoop: a `ctxDone` arrival ends the loop at once, `ctx_returns_at_once`).
  (b) and (c) never outlast the context; (a) does only in the back-pressure wedge of C09.
-/
namespace GorumsV.C08
open GorumsV.ConnMgr GorumsV.ReplyLoop

/-- (a) the router lock is unavailable for good only in the back-pressure shape -/
theorem router_lock_available_unless_backpressure (s : St) :
    enabled s .eDeleteRouter = true ↔ ShapeBackpressure s = false := C09.deleteRouter_enabled_iff s

/-- … which needs a server-stream call that ended early -/
theorem no_backpressure_without_full_stream (ls : List Label) (s : St) (h : exec init ls = some s)
    (hnf : Label.eFullStream ∉ ls) : ShapeBackpressure s = false := C09.no_backpressure_without_full_stream ls s h hnf

variable {M E R : Type}

/-- (c) the reply loop returns the context's error as soon as the context end is consumed, whatever was
    consumed before and whatever would arrive later, provided no earlier prefix had a verdict -/
theorem ctx_returns_at_once (P : Params) (qf : RepMap M → R × Bool) (x : Nat)
    (pre post : List (Arrival M E)) (c : E)
    (hpre : ∀ p ∈ prefixes pre, C02.verdict P qf x p = none) :
    (run P qf x (pre ++ .ctxDone c :: post)).1 = .ctxErr c (errsOf pre) (replySet pre).length :=
  C02.ctx_outcome P qf x pre post c hpre

/-- … and when the context has ended by the time the last targeted node has answered (its end is the next
    event), the exhaustion branch reports the context's error, not Incomplete (`incompleteCause`, errors.go) -/
theorem ctx_error_at_exhaustion (P : Params) (hP : P.Good) (qf : RepMap M → R × Bool) (x : Nat)
    (pre post : List (Arrival M E)) (c : E) (errs : List (NodeId × E)) (n : Nat)
    (hpre : ∀ p ∈ prefixes pre, p ≠ pre → C02.verdict P qf x p = none)
    (hv : C02.verdict P qf x pre = some (.incomplete errs n)) :
    (run P qf x (pre ++ .ctxDone c :: post)).1 = .ctxErr c errs n :=
  C02.exhaustion_outcome P hP qf x pre (.ctxDone c :: post) errs n hpre hv

/-- … and an RPC likewise -/
theorem rpc_ctx_returns (post : List (Arrival M E)) (c : E) : runRpc (.ctxDone c :: post) = .ctxErr c := rfl

/-! ### one-way calls (multicast.go, unicast.go): the wait for send confirmations -/

/-- **a one-way call returns as soon as its context ends**: whatever was confirmed before, when the context's
    end is consumed the wait loop returns — provided the loop has the context case (read from the tree) -/
theorem oneway_ctx_returns (nsw : Bool) (sent : Nat) (pre post : List WaitEvent) :
    onewayReturns nsw true sent (pre ++ .ctxDone :: post) = true := by
  have hw : waitLoop true sent (pre ++ .ctxDone :: post) = true := by
    induction pre generalizing sent with
    | nil => cases sent <;> simp [waitLoop]
    | cons e pre ih => cases sent <;> cases e <;> simp [waitLoop, ih]
  simp [onewayReturns, hw]

/-- why the case matters: a wait loop without it (the pinned code) keeps waiting for the confirmation of a
    message that a stuck sender never writes, although the context has ended (the defect repaired by fix df92080) -/
theorem oneway_needs_ctx_case : onewayReturns false false 1 [.ctxDone] = false := by decide

/-- with the context alive a send-waiting call returns exactly when every sent message is confirmed … -/
theorem oneway_waits_for_confirmations (waitsCtx : Bool) (sent k : Nat) :
    onewayReturns false waitsCtx sent (List.replicate k .confirmed) = true ↔ sent ≤ k := by
  unfold onewayReturns
  simp only [Bool.false_or]
  induction k generalizing sent with
  | zero => cases sent <;> simp [waitLoop]
  | succ k ih =>
    cases sent with
    | zero => simp [waitLoop]
    | succ n => simp only [List.replicate_succ, waitLoop]; rw [ih n]; omega

/-- … and with no-send-waiting at once -/
theorem oneway_nosendwaiting (waitsCtx : Bool) (sent : Nat) (es : List WaitEvent) :
    onewayReturns true waitsCtx sent es = true := rfl

end GorumsV.C08
