import GorumsV.Props.C02
/-!
  C07 — minority failures are tolerated and every failing node is reported exactly once
  (loop-level half, read off `C02.run_cases` / `C02.verdict_cases`; "a waiting call is completed when
  the connection breaks" is `C05.streamDown_answers_all` over the channel model and
  `C09.lost_is_cancelled` over the connection manager).
-/
namespace GorumsV.C07
open GorumsV.ReplyLoop GorumsV.C02 GorumsV.C01
variable {M E R : Type}

/-- **each failing node contributes an error that names it**: the error list of a history holds exactly
    its error arrivals (one entry per arrival: `errsOf_length`) -/
theorem errsOf_mem (pre : List (Arrival M E)) (n : NodeId) (c : E) :
    (n, c) ∈ errsOf pre ↔ Arrival.error n c ∈ pre := by
  induction pre with
  | nil => simp [errsOf]
  | cons a pre ih => cases a <;> simp [errsOf, ih]

theorem errsOf_length (pre : List (Arrival M E)) :
    (errsOf pre).length = (pre.filter (fun a => match a with | .error _ _ => true | _ => false)).length := by
  induction pre with
  | nil => simp [errsOf]
  | cons a pre ih => cases a <;> simp [errsOf, ih]

/-- an error arrival **never** becomes a reply: it does not change the reply set -/
theorem error_not_in_replies (pre : List (Arrival M E)) (n : NodeId) (c : E) :
    replySet (pre ++ [.error n c]) = replySet pre :=
  replySet_append_error pre n c

/-- the error list reported with an Incomplete or context outcome is the error list of the
    consumed history (so every consumed failure is reported, once) -/
theorem reported_errors (P : Params) (qf : RepMap M → R × Bool) (x : Nat) (pre : List (Arrival M E))
    (o : Outcome R E) (h : verdict P qf x pre = some o) :
    (∀ errs n, o = .incomplete errs n → errs = errsOf pre ∧ n = (replySet pre).length) ∧
    (∀ c errs n, o = .ctxErr c errs n → errs = errsOf pre ∧ n = (replySet pre).length) := by
  rcases verdict_cases h with ⟨rfl, _⟩ | ⟨pre, c, rfl, rfl⟩ | ⟨_, _, rfl⟩ <;> simp [errsOf]

theorem answered_le (pre : List (Arrival M E)) : answered pre ≤ pre.length :=
  errsOf_replySet_length_le pre

/-- **failures are tolerated**: if, after a history `pre` of fewer arrivals than targeted nodes,
    without context end and without an earlier quorum, a reply arrives on which the quorum function
    reports a quorum, the call succeeds with that value — whatever errors are interleaved in `pre`. -/
theorem tolerates_failures (P : Params) (hP : P.Good) (qf : RepMap M → R × Bool) (x : Nat)
    (pre post : List (Arrival M E)) (n : NodeId) (m : M)
    (hlen : pre.length < x)
    (hctx : ∀ c, Arrival.ctxDone c ∉ pre)
    (hnoq : ∀ p ∈ prefixes pre, endsInReply p = true → (qf (replySet p)).2 = false)
    (hq : (qf (replySet (pre ++ [.reply n m]))).2 = true) :
    (run P qf x (pre ++ .reply n m :: post)).1 = .ok (qf (replySet (pre ++ [.reply n m]))).1 := by
  apply ok_outcome P qf x pre post n m _ hq
  intro p hp
  rw [verdict_none_iff P hP]
  refine ⟨?_, ?_, ?_⟩
  · intro c hc
    exact hctx c ((mem_prefixes.1 hp).mem (List.mem_of_getLast? hc))
  · intro n' m' hl
    exact hnoq p hp (by simp [endsInReply, hl])
  · have h1 := answered_le p
    have h2 := (mem_prefixes.1 hp).length_le
    omega

/-- **exhaustion with failures**: an Incomplete outcome lists exactly the errors, and counts the replies, of a
    prefix of the history by the end of which `x` answers had arrived (that such a prefix, when it is the first
    to have a verdict, does yield Incomplete is `C02.exhaustion_outcome`) -/
theorem incomplete_lists_failures (P : Params) (hP : P.Good) (qf : RepMap M → R × Bool) (x : Nat)
    (as : List (Arrival M E)) (errs : List (NodeId × E)) (k : Nat)
    (h : (run P qf x as).1 = .incomplete errs k) :
    ∃ pre, pre ∈ prefixes as ∧ errs = errsOf pre ∧ k = (replySet pre).length ∧ answered pre = x := by
  obtain ⟨q, hq, hv⟩ := run_incomplete_verdict h
  exact ⟨q, hq, verdict_incomplete hP hv⟩

/-- **the context's error lists the failures, too** (sibling of `incomplete_lists_failures` for the
    other error outcome): a context-error outcome — whether the loop's `select` saw the context's end
    or the exhaustion branch did (`incompleteCause`) — reports exactly the errors and the number of
    replies of the history before the context's end -/
theorem ctxErr_lists_failures (P : Params) (qf : RepMap M → R × Bool) (x : Nat)
    (as : List (Arrival M E)) (c : E) (errs : List (NodeId × E)) (k : Nat)
    (h : (run P qf x as).1 = .ctxErr c errs k) :
    ∃ pre post, as = pre ++ .ctxDone c :: post ∧ errs = errsOf pre ∧ k = (replySet pre).length := by
  rcases run_cases P qf x as with ⟨_, hr⟩ | ⟨p, s, o, rfl, _, hv, hr⟩ <;> rw [hr] at h
  · cases h
  · rcases adjust_eq h with rfl | ⟨_, _, _, post, rfl, rfl, h'⟩
    · -- the loop's `select` saw the context's end
      rcases verdict_cases hv with ⟨he, _⟩ | ⟨pre, _, rfl, he⟩ | ⟨_, _, he⟩ <;> cases he
      exact ⟨pre, s, by simp, rfl, rfl⟩
    · -- the exhaustion branch did
      cases h'
      obtain ⟨h1, h2⟩ := (reported_errors P qf x p _ hv).1 _ _ rfl
      exact ⟨p, post, rfl, h1, h2⟩

/-- … and when it is the exhaustion branch that reports the context's error (the context's end was
    not consumed by the loop: all `x` targeted nodes had answered), the accounting of
    `incomplete_lists_failures` holds as well -/
theorem exhaustion_ctxErr_lists_failures (P : Params) (hP : P.Good) (qf : RepMap M → R × Bool) (x : Nat)
    (pre post : List (Arrival M E)) (c : E) (errs : List (NodeId × E)) (k : Nat)
    (hpre : ∀ p ∈ prefixes pre, p ≠ pre → verdict P qf x p = none)
    (hv : verdict P qf x pre = some (.incomplete errs k)) :
    (run P qf x (pre ++ .ctxDone c :: post)).1 = .ctxErr c errs k ∧
      errs = errsOf pre ∧ k = (replySet pre).length ∧ answered pre = x :=
  ⟨exhaustion_outcome P hP qf x pre (.ctxDone c :: post) errs k hpre hv, verdict_incomplete hP hv⟩

end GorumsV.C07
