import GorumsV.Props.C09
import GorumsV.Model.LockOrder
/-!
  The blocking sites of channel.go under `streamMut`, as the LTS `ConnMgr` has them.  `LockOrder.modelledSites` names,
  for every place where the tree blocks while holding a lock (regenerated table, Tie/C09Locks `blocking_sites_modelled`),
  the step of a model that stands for it.  For the sites of `receiver`, `sendMsg` and `reconnect` under `streamMut` the
  correspondence is not only a name: at the program counter that stands for the site the model holds exactly the lock
  (and mode) the table shows, in every reachable state.  The fourth site, `newNodeStream`, takes and releases the write
  lock inside the one step `sDial`, which happens only before the receiver exists: the model has no location for it.
-/
namespace GorumsV.SitesP
open GorumsV.ConnMgr GorumsV.C09

/-- `channel.receiver`, `RecvMsg` under `streamMut:R`: the receiver is inside RecvMsg exactly when it holds the read lock -/
theorem recvMsg_under_read (s : St) (h : Reachable s) : s.rpc = .reading ↔ s.readR = true :=
  ((inv_reachable s h).readR).symm

/-- `channel.sendMsg`, `SendMsg` under `streamMut:R`: the sender is inside SendMsg exactly when it holds the read lock -/
theorem sendMsg_under_read (s : St) (h : Reachable s) : s.spc = .sending ↔ s.readS = true :=
  ((inv_reachable s h).readS).symm

/-- `channel.reconnect`, `NodeStream` / `cancelPendingMsgs(true)` under `streamMut:W`: a goroutine is inside the critical
    section of reconnect exactly when it is the writer -/
theorem reconnect_under_write_sender (s : St) (h : Reachable s) :
    (s.spc = .rcHeld ∨ s.spc = .rcBlocked) ↔ s.writer = some .sender := ((inv_reachable s h).writerS).symm
theorem reconnect_under_write_receiver (s : St) (h : Reachable s) :
    (s.rpc = .rcHeld ∨ s.rpc = .rcBlocked) ↔ s.writer = some .receiver := ((inv_reachable s h).writerR).symm

/-- that the two goroutines never hold the write lock at once, and that nobody writes while the other goroutine is inside
    RecvMsg / SendMsg under the read lock, is the *lock's* business: the model's `step` enforces it (a writer needs
    `readS = false ∧ readR = false`); what the invariant adds is that the receiver cannot be reading while it is itself
    the writer -/
theorem writer_not_reading (s : St) (h : Reachable s) (hw : s.writer = some .receiver) : s.readR = false := by
  have hi := inv_reachable s h
  refine Bool.eq_false_iff.2 fun hr => ?_
  rcases hi.writerR.mp hw with h2 | h2 <;> simp [hi.readR.mp hr] at h2

def streamMutSites : List (String × String × String × List String) :=
  [("channel.receiver", "call", "RecvMsg", ["streamMut:R"]), ("channel.sendMsg", "call", "SendMsg", ["streamMut:R"]),
   ("channel.reconnect", "call", "NodeStream", ["streamMut:W"]), ("channel.newNodeStream", "call", "NodeStream", ["streamMut:W"])]

theorem streamMutSites_listed : ∀ x ∈ streamMutSites, x ∈ LockOrder.modelledSites.map (·.1) := by decide +kernel

end GorumsV.SitesP
