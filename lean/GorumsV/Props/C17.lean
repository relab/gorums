import GorumsV.Props.C16
/-!
  C17 — generated stubs bind methods correctly; committed generated code is current.

  Binding half: for every accepted method the generator model emits exactly the stub of the
  declared call type, with the declared per-node wiring, quorum-function entry and server
  handler shape (theorems over `Gen`; the model is tied to the real plugin by C16's
  `table_is_model`, which also covers the method-name strings, column `methodStrOK`).
  Currency half: regenerate-and-compare of every committed generated file (tie).
-/
namespace GorumsV.C17
open GorumsV.Gen GorumsV.C16

/-- **the stub uses the call type declared for the method** -/
theorem stub_kind (o : Opts) (h : validate o = none) :
    (o.quorumcall = true → o.async = false → stubs o = ["Configuration.QuorumCall"]) ∧
    (o.quorumcall = true → o.async = true → stubs o = ["Configuration.AsyncCall"]) ∧
    (o.correctable = true → stubs o = ["Configuration.CorrectableCall"]) ∧
    (o.multicast = true → stubs o = ["Configuration.Multicast"]) ∧
    (o.unicast = true → stubs o = ["Node.Unicast"]) ∧
    (hasCallType o = false → stubs o = ["Node.RPCCall"]) := stub_is_declared o h

/-- **the server handler shape matches the client stub**: one-way stubs have handlers without a
    reply, correctable streams have streaming handlers, everything else is unary -/
theorem server_shape_matches (o : Opts) (h : validate o = none) :
    (serverShape o = "oneway" ↔ (stubs o = ["Configuration.Multicast"] ∨ stubs o = ["Node.Unicast"])) ∧
    (serverShape o = "stream" ↔ (stubs o = ["Configuration.CorrectableCall"] ∧ o.serverStream = true)) := by
  obtain ⟨hn, -, ha, -⟩ := (validate_eq_none_iff o).1 h
  rcases call_kind o hn ha with k | k | k | k | k | k <;> simp [serverShape, ite_eq_iff, k]

/-- quorum-function entry and per-node wiring follow the declaration -/
theorem qf_and_pernode (o : Opts) (h : validate o = none) :
    (hasQF o = true ↔ (stubs o = ["Configuration.QuorumCall"] ∨ stubs o = ["Configuration.AsyncCall"] ∨ stubs o = ["Configuration.CorrectableCall"])) ∧
    (perNodeSet o = true ↔ (o.perNode = true ∧ o.unicast = false)) := C16.qf_and_pernode o h

end GorumsV.C17
