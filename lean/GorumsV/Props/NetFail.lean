import GorumsV.Props.Net
/-!
  The composite system, failures and residue: what the channel theorems say of one channel holds of every node of the
  composite (every node's channel is a reachable `Chan` state), so the per-call statements follow for a call that spans
  nodes.  With one id per call (`ids_unique`) "per request id on node n" is "per (call, node)".
-/
namespace GorumsV.NetP
open GorumsV.Net

/-- **C07, end to end: a failing node is reported at most once per call** — on every node, a request is answered with
    at most one error, whatever fails (handler status, failed write, dead stream, replaced stream, closed channel) -/
theorem net_at_most_one_error (P : Params) (s : State) (h : Reachable P s) (n : NodeId) (id : Chan.MsgId) :
    ((Chan.deliveriesOf (s.nodes n).chan id).filter (fun d => d.resp.isErr)).length ≤ 1 :=
  C05.at_most_one_error _ (chan_reachable P s h n) id

/-- … and nothing is delivered for that request after the error -/
theorem net_error_is_last (P : Params) (s : State) (h : Reachable P s) (n : NodeId) (id : Chan.MsgId)
    (pre post : List Chan.Delivery) (d : Chan.Delivery)
    (hd : Chan.deliveriesOf (s.nodes n).chan id = pre ++ d :: post) (he : d.resp.isErr = true) : post = [] :=
  C05.error_is_last _ (chan_reachable P s h n) id pre post d hd he

/-- **C18, end to end: an answered request leaves no routing state on any node** (non-streaming request answered once;
    any request answered with an error) -/
theorem net_no_router_after_error (P : Params) (s : State) (h : Reachable P s) (n : NodeId)
    (d : Chan.Delivery) (hd : d ∈ (s.nodes n).chan.deliveries) (he : d.resp.isErr = true) :
    Chan.hasRouter (s.nodes n).chan d.id = false :=
  C05.no_router_after_error _ (chan_reachable P s h n) d hd he

theorem net_no_router_after_answer (P : Params) (s : State) (h : Reachable P s) (n : NodeId) (id : Chan.MsgId) (c : Chan.CallId)
    (hreg : (id, c, false) ∈ (s.nodes n).chan.registered) (hd : C05.countDeliveries (s.nodes n).chan id = 1) :
    Chan.hasRouter (s.nodes n).chan id = false :=
  C05.no_router_after_answer _ (chan_reachable P s h n) id c hreg hd

/-- every router on every node belongs to a request some call issued to that node (no router is left behind by anything
    but an outstanding request) -/
theorem net_router_is_issued (P : Params) (s : State) (h : Reachable P s) (n : NodeId) (x : Chan.Router)
    (hx : x ∈ (s.nodes n).chan.routers) : ∃ p, (⟨x.id, x.call, n, p⟩ : Issue) ∈ s.issued :=
  ((inv_reachable P s h).node n).regIssued _ ((C05.inv_reachable _ (chan_reachable P s h n)).routerRegistered x hx)

end GorumsV.NetP
