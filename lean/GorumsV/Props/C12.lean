import GorumsV.Props.C09
/-!
  C12 — Close stops everything and strands no caller (partial: goroutine exit and socket closure
  are observed at runtime by engine close; the model shows where the goroutines can be when nothing
  moves any more, and that no request is left behind).
-/
namespace GorumsV.C12
open GorumsV.ConnMgr

/-- after Close, when nothing can move any more, both goroutines have exited — unless a goroutine is
    blocked in the back-pressure wedge of C09 (the receiver in `routeResponse` / `cancelPendingMsgs`, or either
    goroutine in the `cancelPendingMsgs` of `reconnect`) -/
theorem closed_stuck_means_exited (s : St) (h : Reachable s) (hc : s.closed = true) (hs : Stuck s = true) :
    (s.spc = .exited ∧ (s.rpc = .exited ∨ s.rpc = .absent)) ∨ ShapeBackpressure s = true :=
  C09.closed_stuck_means_exited s h hc hs

/-- after Close no stream is alive and no new request is accepted by the channel (callers are answered "channel closed") -/
theorem closed_no_stream (s : St) (h : Reachable s) (hc : s.closed = true) : s.alive = false ∧ enabled s .eRequest = false :=
  C09.closed_no_stream s h hc

/-- no request is left in the send queue by the exiting sender (repair of defect D12) -/
theorem sender_exit_leaves_no_request (s : St) (h : Reachable s) (he : s.spc = .exited) : s.queued = 0 :=
  C09.sender_exit_leaves_no_request s h he

/-- **Close strands no caller** (model level): after Close, when nothing the library or a well-behaved
    environment does can happen any more, nothing is owed — no request is queued or held by the sender, no answer
    is in flight, and no request written to a stream is left unanswered — unless a goroutine is blocked in the
    back-pressure wedge of C09 -/
theorem closed_rest_owes_nothing (s : St) (h : Reachable s) (hc : s.closed = true) (hs : Stuck s = true) :
    owes s = false ∨ ShapeBackpressure s = true := by
  have hi := C09.inv_reachable s h
  rcases C09.stuck_shapes s hi hs with hb | hw | hr
  · exact .inr hb
  · -- the stale-broken wedge has a live stream
    simp [ShapeStaleBroken, hi.closedDead hc] at hw
  · exact .inl (hr.owes_nothing hi)

/-- the exiting receiver answers every request that was written to a stream and is still pending (the repair of
    defect D12, second half: `cancelPendingMsgs` at the receiver's exit) -/
theorem receiver_exit_leaves_nothing_lost (s : St) (h : Reachable s) (he : s.rpc = .exited) : s.lost = 0 :=
  (C09.inv_reachable s h).exitedNothingLost he

end GorumsV.C12
