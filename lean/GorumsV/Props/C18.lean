import GorumsV.Props.C05
/-!
  C18 — completed calls leave no residue.  The routing-state half is a set of invariants of
  the node-channel model `GorumsV.Chan`, proved in Props/C05.lean and restated here; the
  goroutine half (call goroutines and the per-request watcher end) is observed at runtime by
  engine `xtalk` (goroutine profile filtered to library frames) — see DESIGN.md, C18.
-/
namespace GorumsV.C18
open GorumsV.Chan GorumsV.C05

/-- once a non-streaming request has been answered (reply, error, or stream-down) no router is kept -/
theorem no_router_after_answer (s : State) (h : Reachable s) (id : MsgId) (c : CallId)
    (hreg : (id, c, false) ∈ s.registered) (hd : countDeliveries s id = 1) : hasRouter s id = false :=
  C05.no_router_after_answer s h id c hreg hd

/-- a non-streaming request whose router still exists has not been answered: a router is kept only for an outstanding request -/
theorem router_means_unanswered (s : State) (h : Reachable s) (id : MsgId) (c : CallId)
    (hreg : (id, c, false) ∈ s.registered) (hr : hasRouter s id = true) : deliveriesOf s id = [] :=
  ((inv_reachable s h).nonStreaming id c hreg).1 hr

/-- the router table is bounded by the number of requests ever registered, one router per request -/
theorem routers_bounded (s : State) (h : Reachable s) :
    s.routers.length ≤ s.registered.length ∧ (s.routers.map (·.id)).Nodup :=
  ⟨C05.routers_bounded s h, (inv_reachable s h).routersNodup⟩

/-- a streaming call's deferred deletion removes its router -/
theorem deleteRouter_removes (s s' : State) (id : MsgId) (hs : step s (.deleteRouter id) = some s') :
    hasRouter s' id = false := C05.deleteRouter_removes s s' id hs

/-- a broken connection leaves no router behind -/
theorem streamDown_clears (s s' : State) (hs : step s .streamDown = some s') :
    s'.routers = [] := (C05.streamDown_answers_all s s' hs).2

/-- a request that has been answered with an error keeps no router, streaming or not -/
theorem no_router_after_error (s : State) (h : Reachable s) (d : Delivery) (hd : d ∈ s.deliveries)
    (he : d.resp.isErr = true) : hasRouter s d.id = false := C05.no_router_after_error s h d hd he

end GorumsV.C18
