import GorumsV.Model.Backoff
/-!
  C10, the timer half: how long a node's channel waits between two attempts to re-create its stream.  For every
  back-off configuration (multiplier ≥ 1, jitter ≤ 1) and every number of failed attempts the wait is at most
  `MaxDelay · (1 + Jitter)`, never shrinks as failures accumulate, and is constant for a multiplier of one: a node
  that listens again is retried within a bound that does not depend on the length of the outage.
-/
namespace GorumsV.BackoffP
open GorumsV.Backoff

/-- the loop unrolled at its last iteration (the definition unrolls the first): the guard `delay < max` stays
    false once it is false -/
theorem grow_succ (c : Cfg) (r d : Nat) :
    grow c (r + 1) d = if grow c r d < c.max then grow c r d * c.num / c.den else grow c r d := by
  induction r generalizing d with
  | zero => rfl
  | succ r ih =>
    rw [grow]
    by_cases h : d < c.max
    · rw [if_pos h, ih, grow, if_pos h]
    · rw [if_neg h, grow, if_neg h, if_neg h]

theorem grow_mono (c : Cfg) (h : c.Sane) (d : Nat) {r r' : Nat} (hr : r ≤ r') : grow c r d ≤ grow c r' d := by
  induction hr with
  | refl => exact Nat.le_refl _
  | @step r' _ ih =>
    refine Nat.le_trans ih ?_
    rw [grow_succ]
    split
    · exact (Nat.le_div_iff_mul_le h.1).2 (Nat.mul_le_mul_left _ h.2.1)
    · exact Nat.le_refl _

theorem delay_le_max (c : Cfg) (r : Nat) : delay c r ≤ c.max :=
  Nat.min_le_right _ _

/-- the delay does not shrink as failures accumulate -/
theorem delay_mono (c : Cfg) (h : c.Sane) (r r' : Nat) (hr : r ≤ r') : delay c r ≤ delay c r' := by
  have := grow_mono c h c.base hr
  simp only [delay]; omega

/-- the delay is at least the smaller of `BaseDelay` and `MaxDelay` -/
theorem delay_ge_base (c : Cfg) (h : c.Sane) (r : Nat) : min c.base c.max ≤ delay c r :=
  delay_mono c h 0 r (Nat.zero_le r)

/-- with a multiplier of one the delay is the same after every failure -/
theorem delay_const (c : Cfg) (hd : 0 < c.den) (hm : c.num = c.den) (r : Nat) : delay c r = min c.base c.max := by
  have : grow c r c.base = c.base := by
    induction r with
    | zero => rfl
    | succ r ih => rw [grow_succ, ih, hm, Nat.mul_div_cancel _ hd, ite_self]
  rw [delay, this]

/-- once the cap has been reached the delay stays there -/
theorem delay_capped (c : Cfg) (h : c.Sane) (r r' : Nat) (hr : r ≤ r') (hc : delay c r = c.max) : delay c r' = c.max := by
  have h1 := delay_mono c h r r' hr
  have h2 := delay_le_max c r'
  omega

theorem per_mille (a b : Nat) : a * (b * 1000) / 1000000 = a * b / 1000 := by
  rw [← Nat.mul_assoc]
  exact Nat.mul_div_mul_right _ 1000 (by decide)

/-- **the wait is bounded for every configuration, every number of failures and every draw**:
    `sleep ≤ MaxDelay · (1 + Jitter)` -/
theorem sleep_le (c : Cfg) (h : c.Sane) (r u : Nat) (hu : u ≤ 2000) :
    sleep c r u ≤ c.max * (1000 + c.jitter) / 1000 := by
  have _ := h  -- the upper bound needs no assumption on the multiplier or the jitter
  have hj : c.jitter * u ≤ c.jitter * 2000 := Nat.mul_le_mul_left _ hu
  have hF : 1000000 + c.jitter * u - c.jitter * 1000 ≤ (1000 + c.jitter) * 1000 := by
    generalize c.jitter * u = x at hj ⊢; omega
  rw [← per_mille]
  exact Nat.div_le_div_right (Nat.mul_le_mul (delay_le_max c r) hF)

/-- … and never negative-scaled: at least `delay · (1 − Jitter)` -/
theorem sleep_ge (c : Cfg) (h : c.Sane) (r u : Nat) (hu : u ≤ 2000) :
    delay c r * (1000 - c.jitter) / 1000 ≤ sleep c r u := by
  have _ := hu  -- the lower bound holds for every draw
  have _ := h   -- … and every configuration: a jitter above one makes the bound zero
  have hF : (1000 - c.jitter) * 1000 ≤ 1000000 + c.jitter * u - c.jitter * 1000 := by
    generalize c.jitter * u = x; omega
  rw [← per_mille]
  exact Nat.div_le_div_right (Nat.mul_le_mul_left _ hF)

/-- non-vacuity: gRPC's default configuration (1 s, ×1.6, jitter 0.2, 120 s): 1 s, 1.6 s, 2.56 s, …, capped at 120 s -/
def grpcDefault : Cfg := { base := 1000000000, max := 120000000000, num := 16, den := 10, jitter := 200 }
example : grpcDefault.Sane := ⟨by decide, by decide, by decide⟩
example : (List.range 4).map (delay grpcDefault) = [1000000000, 1600000000, 2560000000, 4096000000] := by decide
example : delay grpcDefault 40 = 120000000000 := by decide

end GorumsV.BackoffP
