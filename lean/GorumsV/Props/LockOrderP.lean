import GorumsV.Model.LockOrder
/-!
  What the evaluated `LockOrder.acyclic es fuel = true` means: there is no walk of length at most `fuel + 1` along the
  lock order that returns to its start.  (The lock order of the tree has two edges and `fuel = 8`; a shortest cycle
  never repeats an edge, so for `es.length ≤ fuel + 1` this excludes every cycle — that last step, a pigeonhole
  argument, is not formalised.)
-/
namespace GorumsV.LockOrderP
open GorumsV.LockOrder

/-- a walk of `k ≥ 1` edges from `a` to `c` -/
inductive Walk (es : List (String × String)) : Nat → String → String → Prop where
  | one {a b : String} : (a, b) ∈ es → Walk es 1 a b
  | cons {a b c : String} {k : Nat} : (a, b) ∈ es → Walk es k b c → Walk es (k + 1) a c

theorem mem_succs (es : List (String × String)) (a b : String) : b ∈ succs es a ↔ (a, b) ∈ es := by
  simp [succs, List.mem_filterMap]

theorem mem_step (es : List (String × String)) (ns : List String) (x : String) :
    x ∈ (ns ++ ns.flatMap (succs es)).eraseDups ↔ x ∈ ns ∨ ∃ a, a ∈ ns ∧ (a, x) ∈ es := by
  simp only [List.mem_eraseDups, List.mem_append, List.mem_flatMap, mem_succs]

theorem subset_reach (es : List (String × String)) (k : Nat) : ∀ (ns : List String) (x : String),
    x ∈ ns → x ∈ reach es k ns := by
  induction k with
  | zero => intro ns x hx; exact hx
  | succ k ih =>
    intro ns x hx
    show x ∈ reach es k (ns ++ ns.flatMap (succs es)).eraseDups
    exact ih _ x ((mem_step es ns x).2 (Or.inl hx))

/-- `reach es k ns` contains `ns` and is closed under up to `k` steps -/
theorem walk_in_reach (es : List (String × String)) (k : Nat) (a c : String) (ns : List String)
    (ha : a ∈ ns) (h : Walk es k a c) (fuel : Nat) (hk : k ≤ fuel) : c ∈ reach es fuel ns := by
  induction h generalizing ns fuel with
  | one hab =>
    cases fuel with
    | zero => omega
    | succ f =>
      show _ ∈ reach es f (ns ++ ns.flatMap (succs es)).eraseDups
      exact subset_reach es f _ _ ((mem_step es ns _).2 (Or.inr ⟨_, ha, hab⟩))
  | cons hab _ ih =>
    cases fuel with
    | zero => omega
    | succ f =>
      show _ ∈ reach es f (ns ++ ns.flatMap (succs es)).eraseDups
      exact ih _ ((mem_step es ns _).2 (Or.inr ⟨_, ha, hab⟩)) f (by omega)

/-- **soundness of the evaluated check**: if `acyclic es fuel` holds, no walk of at most `fuel + 1` edges returns to its start -/
theorem acyclic_no_short_cycle (es : List (String × String)) (fuel : Nat) (h : acyclic es fuel = true)
    (n : String) (k : Nat) (hk : k ≤ fuel + 1) : ¬ Walk es k n n := by
  intro w
  have key : ∀ b, (n, b) ∈ es → n ∈ reach es fuel (succs es n) → False := by
    intro b hb hr
    have hn : n ∈ es.map (·.1) := List.mem_map.2 ⟨(n, b), hb, rfl⟩
    unfold acyclic at h
    have := (List.all_eq_true.1 h) n hn
    simp at this
    exact this hr
  cases w with
  | one hab =>
    exact key _ hab (subset_reach es fuel _ _ ((mem_succs es n n).2 hab))
  | cons hab hbc =>
    exact key _ hab (walk_in_reach es _ _ n _ ((mem_succs es n _).2 hab) hbc fuel (by omega))

end GorumsV.LockOrderP
