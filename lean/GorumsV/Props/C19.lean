import GorumsV.Model.Sort
/-!
  C19 — node sorters order by their keys.

  * `multiLess_is_lex`: `MultiSorter.Less` is the lexicographic order of its keys;
  * `lex_swo`: the lexicographic order of strict weak orders is a strict weak order
    (so each provided key can be used in any position, given `byID_swo`,
    `byPort_swo`, `byLastErr_swo`);
  * `isort_perm`, `isort_sorted`: a sort driven by a strict weak order yields a
    permutation without inversions (the reference used to predict the real
    `sort.Sort`, whose own contract is in the trusted base);
  * `sorted_ties`: in such an output, nodes equal under k1 are ordered by k2….
-/
namespace GorumsV.C19
open GorumsV.NodeSort

/-- strict weak ordering, in the "negatively transitive" presentation -/
structure StrictWeak (lt : LessFn) : Prop where
  irrefl : ∀ a, lt a a = false
  trans : ∀ a b c, lt a b = true → lt b c = true → lt a c = true
  negtrans : ∀ a b c, lt a b = false → lt b c = false → lt a c = false

/-- the textbook form: incomparability is transitive -/
theorem StrictWeak.incomp_trans {lt : LessFn} (h : StrictWeak lt) (a b c : Key)
    (h1 : lt a b = false) (h2 : lt b a = false) (h3 : lt b c = false) (h4 : lt c b = false) :
    lt a c = false ∧ lt c a = false :=
  ⟨h.negtrans a b c h1 h3, h.negtrans c b a h4 h2⟩

theorem StrictWeak.asymm {lt : LessFn} (h : StrictWeak lt) (a b : Key) (hab : lt a b = true) : lt b a = false :=
  Bool.of_not_eq_true fun hba => nomatch (h.irrefl a).symm.trans (h.trans a b a hab hba)

/-- **`Less` is the lexicographic order of its keys** (for a non-empty key list). -/
theorem multiLess_is_lex (ks : List LessFn) (hne : ks ≠ []) (p q : Key) :
    multiLess ks p q = some (lexLt ks p q) := by
  induction ks with
  | nil => exact absurd rfl hne
  | cons k ks ih =>
    cases ks with
    | nil => simp [multiLess, lexLt]
    | cons k' ks =>
      have ih' := ih (by simp)
      simp only [multiLess]
      cases h1 : k p q <;> cases h2 : k q p <;> simp [lexLt, h1, h2, ih']

/-- without keys `Less` panics (index out of range); `OrderedBy()` is outside "k1, …, kn" -/
theorem multiLess_nil (p q : Key) : multiLess [] p q = none := rfl

theorem StrictWeak.of_asymm {lt : LessFn} (asymm : ∀ a b, lt a b = true → lt b a = false)
    (negtrans : ∀ a b c, lt a b = false → lt b c = false → lt a c = false) : StrictWeak lt where
  irrefl a := Bool.of_not_eq_true fun h => nomatch (asymm a a h).symm.trans h
  trans a b c hab hbc :=
    Bool.of_not_eq_false fun hac => nomatch (negtrans a c b hac (asymm b c hbc)).symm.trans hab
  negtrans := negtrans

theorem lexLt_cons_eq_true {k : LessFn} {ks : List LessFn} {a b : Key} :
    lexLt (k :: ks) a b = true ↔ k a b = true ∨ k b a = false ∧ lexLt ks a b = true := by
  simp [lexLt]

theorem lexLt_cons_eq_false {k : LessFn} {ks : List LessFn} {a b : Key} :
    lexLt (k :: ks) a b = false ↔ k a b = false ∧ (k b a = false → lexLt ks a b = false) := by
  simp [lexLt]

/-- **The lexicographic order of strict weak orders is a strict weak order.** -/
theorem lex_swo (ks : List LessFn) (hk : ∀ k ∈ ks, StrictWeak k) : StrictWeak (lexLt ks) := by
  induction ks with
  | nil => exact ⟨fun _ => rfl, fun _ _ _ h => (nomatch h), fun _ _ _ _ _ => rfl⟩
  | cons k ks ih =>
    have K : StrictWeak k := hk k (by simp)
    have T := ih (fun k' hk' => hk k' (by simp [hk']))
    refine .of_asymm (fun a b hab => ?_) (fun a b c hab hbc => ?_)
    · rw [lexLt_cons_eq_false]
      rcases lexLt_cons_eq_true.1 hab with kab | ⟨kba, tab⟩
      · exact ⟨K.asymm a b kab, fun h => nomatch h.symm.trans kab⟩
      · exact ⟨kba, fun _ => T.asymm a b tab⟩
    · rw [lexLt_cons_eq_false] at hab hbc ⊢
      -- if `k` does not separate `a` and `c`, it separates neither of them from `b`
      exact ⟨K.negtrans a b c hab.1 hbc.1, fun kca => T.negtrans a b c
        (hab.2 (K.negtrans b c a hbc.1 kca)) (hbc.2 (K.negtrans c a b kca hab.1))⟩

theorem swo_of_key (f : Key → Int) : StrictWeak (fun a b => decide (f a < f b)) :=
  ⟨fun a => by simp, fun a b c => by simp only [decide_eq_true_eq]; omega,
    fun a b c => by simp only [decide_eq_false_iff_not]; omega⟩

theorem byID_swo : StrictWeak byID := by
  have h := swo_of_key (fun k => (k.id : Int))
  simp only [Int.ofNat_lt] at h
  exact h

theorem byPort_swo : StrictWeak byPort := swo_of_key (·.port)

theorem byLastErr_swo : StrictWeak byLastErr := by
  have : byLastErr = fun a b => decide ((if a.hasErr then 1 else 0 : Int) < if b.hasErr then 1 else 0) := by
    funext a b; cases ha : a.hasErr <;> cases hb : b.hasErr <;> simp [byLastErr, ha, hb]
  exact this ▸ swo_of_key _

/-- the key as written in the pinned tree (`true` unless n1 failed and n2 did not) is
    *not* irreflexive: it claims a node is less than itself (defect D16). -/
theorem pinned_lastErr_not_swo :
    ¬ StrictWeak (fun a b => !(a.hasErr && !b.hasErr)) := by
  intro h
  have := h.irrefl ⟨0, 0, false⟩
  simp at this

theorem insert_perm (lt : LessFn) (x : Key) (l : List Key) : (ins lt x l).Perm (x :: l) := by
  induction l with
  | nil => exact List.Perm.refl _
  | cons y ys ih =>
    simp only [ins]
    split
    · exact (List.Perm.cons y ih).trans (List.Perm.swap x y ys)
    · exact List.Perm.refl _

/-- the reference sort returns a permutation of its input -/
theorem isort_perm (lt : LessFn) (l : List Key) : (isort lt l).Perm l := by
  induction l with
  | nil => exact List.Perm.refl _
  | cons x xs ih => exact (insert_perm lt x _).trans (List.Perm.cons x ih)

/-- "no inversion": no later element is strictly less than an earlier one -/
def Sorted (lt : LessFn) (l : List Key) : Prop := l.Pairwise (fun a b => lt b a = false)

theorem insert_sorted (lt : LessFn) (h : StrictWeak lt) (x : Key) (l : List Key) (hs : Sorted lt l) :
    Sorted lt (ins lt x l) := by
  induction l with
  | nil => exact List.pairwise_singleton _ x
  | cons y ys ih =>
    obtain ⟨hy, hs⟩ := List.pairwise_cons.1 hs
    simp only [ins]
    split
    · rename_i hyx
      refine List.pairwise_cons.2 ⟨fun z hz => ?_, ih hs⟩
      rcases List.mem_cons.1 ((insert_perm lt x ys).mem_iff.1 hz) with rfl | hz
      · exact h.asymm y z hyx
      · exact hy z hz
    · rename_i hyx
      rw [Bool.not_eq_true] at hyx
      -- `x` goes in front: `¬ y < x`, and `¬ z < y` gives `¬ z < x` for the `z` behind `y`
      exact List.pairwise_cons.2 ⟨List.forall_mem_cons.2 ⟨hyx, fun z hz => h.negtrans z y x (hy z hz) hyx⟩,
        List.pairwise_cons.2 ⟨hy, hs⟩⟩

/-- **the reference sort has no inversions** when `lt` is a strict weak order -/
theorem isort_sorted (lt : LessFn) (h : StrictWeak lt) (l : List Key) : Sorted lt (isort lt l) := by
  induction l with
  | nil => simp [isort, Sorted]
  | cons x xs ih => exact insert_sorted lt h x _ ih

/-- **ties under the first key are ordered by the remaining keys**: in an output
    without inversions for `k :: ks`, two elements that `k` does not separate are
    not inverted for `ks` either. -/
theorem sorted_ties (k : LessFn) (ks : List LessFn) (l : List Key)
    (hs : Sorted (lexLt (k :: ks)) l) :
    l.Pairwise (fun a b => k a b = false → k b a = false → lexLt ks b a = false) :=
  List.Pairwise.imp (fun h hab _ => (lexLt_cons_eq_false.1 h).2 hab) hs

/-- … and it is ordered by the first key -/
theorem sorted_first (k : LessFn) (ks : List LessFn) (l : List Key)
    (hs : Sorted (lexLt (k :: ks)) l) : Sorted k l :=
  List.Pairwise.imp (fun h => (lexLt_cons_eq_false.1 h).1) hs

/-! non-vacuity -/
example : isort (lexLt [byLastErr, byID]) [⟨3, 1, true⟩, ⟨2, 1, false⟩, ⟨1, 1, true⟩, ⟨4, 1, false⟩]
    = [⟨2, 1, false⟩, ⟨4, 1, false⟩, ⟨1, 1, true⟩, ⟨3, 1, true⟩] := by decide
example : multiLess [byLastErr, byID] ⟨3, 1, true⟩ ⟨1, 1, true⟩ = some false := by decide

end GorumsV.C19
