import GorumsV.Props.Net
import GorumsV.Props.C01
import GorumsV.Props.C03
/-!
  The composite system, call level: what the reply loop of a call and the handlers of a node see.

  * `qf_sees_only_genuine` (C01): compose the loop theorem "every entry of every reply set shown to the quorum
    function is a reply arrival of this call" with `NetP.provenance`: every entry (n, v) of every reply set is
    what node n's handler computed from the payload this call addressed to n.
  * `net_start_order` (C03): inside the composite the stream contract that `C03.start_order` assumes is a
    theorem: what node n's server has received on the current connection, followed by what is still in
    transit, is a subsequence of what the client's sender wrote, hence of what callers handed off — also
    across lost writes and dead streams.
  * `handler_payload_is_addressed` (C06): the payload a running handler holds is the payload of *the*
    request with that id addressed to that node.
-/
namespace GorumsV.NetP
open GorumsV.Net

/-- an arrival history of call c is genuine in s when each of its reply arrivals (n, v) is a delivery of
    node n's channel to call c (that is where `replyChan` gets its values from: `routeResponse`) -/
def GenuineFor {E : Type} (s : State) (c : Chan.CallId) (as : List (ReplyLoop.Arrival Nat E)) : Prop :=
  ∀ n v, ReplyLoop.Arrival.reply n v ∈ as → ∃ id, (⟨id, c, Chan.Resp.reply v⟩ : Chan.Delivery) ∈ (s.nodes n).chan.deliveries

/-- **C01, end to end**: every entry of every reply set the quorum function is shown is, under node n, the value
    n's handler computed from the payload this very call addressed to n -/
theorem qf_sees_only_genuine {E R : Type} (P : Params) (hP : P.Good) (s : State) (h : Reachable P s)
    (c : Chan.CallId) (as : List (ReplyLoop.Arrival Nat E)) (hg : GenuineFor s c as)
    (LP : ReplyLoop.Params) (qf : ReplyLoop.RepMap Nat → R × Bool) (x : Nat)
    (reps : ReplyLoop.RepMap Nat) (hr : reps ∈ (ReplyLoop.run LP qf x as).2) (n : NodeId) (v : Nat) (hv : (n, v) ∈ reps) :
    ∃ id p, (⟨id, c, n, p⟩ : Issue) ∈ s.issued ∧ P.handler n p = .reply v := by
  obtain ⟨k, _, hlog⟩ := C01.log_is_reply_prefixes LP qf x as
  rw [hlog] at hr
  obtain ⟨pre, hpre, _, rfl⟩ := C01.mem_replyLog.1 hr
  have has : ReplyLoop.Arrival.reply n v ∈ as :=
    List.mem_of_mem_take (hpre.mem (C01.replySet_entries_are_replies pre n v hv))
  obtain ⟨id, hd⟩ := hg n v has
  obtain ⟨p, hp, hh⟩ := provenance P hP s h n _ hd v rfl
  exact ⟨id, p, hp, hh⟩

/-- **C03, end to end**: on every node, handlers started on the current connection followed by the requests
    still in transit form a subsequence of what the sender wrote to the stream -/
theorem net_stream_contract (P : Params) (s : State) (h : Reachable P s) (n : NodeId) :
    (SrvConn.started (s.nodes n).srv ++ (s.nodes n).up.map (·.1)).Sublist (s.nodes n).chan.sent :=
  ((inv_reachable P s h).node n).stream

/-- … hence of what callers handed to the node's queue, without repetition: no request overtakes another -/
theorem net_start_order (P : Params) (s : State) (h : Reachable P s) (n : NodeId) :
    (SrvConn.started (s.nodes n).srv).Sublist (s.nodes n).chan.pushed ∧ (SrvConn.started (s.nodes n).srv).Nodup :=
  C03.sublist_sent _ (chan_reachable P s h n) ((List.sublist_append_left _ _).trans (net_stream_contract P s h n))

/-- **C06, end to end**: the payload a handler runs with is the payload of the one request with that id that was
    addressed to that node -/
theorem handler_payload_is_addressed (P : Params) (s : State) (h : Reachable P s) (n : NodeId)
    (id : Chan.MsgId) (p : Payload) (hr : (id, p) ∈ (s.nodes n).running)
    (a : Issue) (ha : a ∈ s.issued) (hid : a.id = id) (hn : a.node = n) : a.payload = p := by
  obtain ⟨c, hc⟩ := server_receives_own_payload P s h n id p (Or.inl hr)
  have := issue_unique P s h a _ ha hc hn (Or.inr hid)
  rw [this]

/-- non-vacuity: two calls on two nodes; call 1 gets node 0's answer to its own payload -/
def goodP : Params := { handler := fun n p => .reply (1000 * n + p), replyId := fun i => i }

def demoTrace : List Label :=
  [.newCall 1, .newCall 2, .target 1 0 7 false, .target 1 1 8 false, .target 2 0 9 false,
   .chan 0 (.handoff 1), .chan 1 (.handoff 1), .chan 0 (.handoff 2), .chan 0 .pop, .send 0 false false,
   .chan 0 .pop, .send 0 false false, .srvRecv 0, .srvRelease 0 1, .srvAcquire 0, .srvRecv 0, .srvReply 0 2, .srvReply 0 1,
   .recv 0, .recv 0, .chan 1 .pop, .wireDie 1, .send 1 false true, .chan 1 .streamDown]

theorem demo_deliveries :
    (exec goodP init demoTrace).map (fun s => ((s.nodes 0).chan.deliveries, (s.nodes 1).chan.deliveries)) =
      some ([⟨2, 2, .reply 9⟩, ⟨1, 1, .reply 7⟩], [⟨1, 1, .err 0⟩]) := by
  rfl

theorem goodP_good : goodP.Good := fun _ => rfl

end GorumsV.NetP
