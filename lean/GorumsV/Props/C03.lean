import GorumsV.Props.C05
import GorumsV.Props.C04
/-!
  C03 — per-node FIFO: servers start handlers in the order the client issued the calls.

  The order travels through four stages, each FIFO:
    caller's hand-off → send queue → sender → stream (gRPC, trusted) → receive loop → handler start.
  Client half: `Chan` (what is written to the stream is a subsequence, in order, of what was
  handed off; each request at most once).  Server half: `SrvConn` (handlers are started in
  receive order, each once).  The composition over one connection: if the server receives
  what was sent, in order (the stream's contract), then the start order is a subsequence of
  the hand-off order — `start_order`.
-/
namespace GorumsV.C03
open GorumsV.Chan

/-- client half -/
theorem sent_in_handoff_order (s : State) (h : Reachable s) : s.sent.Sublist s.pushed ∧ s.pushed.Nodup :=
  C05.sent_in_handoff_order s h

theorem queue_is_fifo (s : State) (h : Reachable s) : s.popped <+: s.pushed := C05.popped_prefix_of_pushed s h

/-- server half -/
theorem started_in_receive_order (ls : List SrvConn.Label) (s : SrvConn.State) (h : SrvConn.exec SrvConn.init ls = some s) :
    SrvConn.started s = ls.filterMap (fun l => match l with | .recv r => some r | _ => none) :=
  C04.started_in_receive_order ls s h

/-- whatever is, in order, among what was written to the stream is among what was handed off, without
    repetition -/
theorem sublist_sent (c : State) (hc : Reachable c) {l : List MsgId} (hl : l.Sublist c.sent) :
    l.Sublist c.pushed ∧ l.Nodup :=
  have h := sent_in_handoff_order c hc
  ⟨hl.trans h.1, (hl.trans h.1).nodup h.2⟩

/-- **composition over one connection**: if what the server received so far is a prefix of what
    the client wrote to that stream (gRPC: in order, at most once), then the handlers were started
    in an order that is a subsequence of the hand-off order, and no handler was started twice -/
theorem start_order (c : State) (hc : Reachable c)
    (ls : List SrvConn.Label) (srv : SrvConn.State) (hs : SrvConn.exec SrvConn.init ls = some srv)
    (hstream : (ls.filterMap (fun l => match l with | .recv r => some r | _ => none)) <+: c.sent) :
    (SrvConn.started srv).Sublist c.pushed ∧ (SrvConn.started srv).Nodup :=
  sublist_sent c hc (started_in_receive_order ls srv hs ▸ hstream.sublist)

/-- hence two requests handed off in one order are never started in the other order -/
theorem no_overtaking (c : State) (hc : Reachable c)
    (ls : List SrvConn.Label) (srv : SrvConn.State) (hs : SrvConn.exec SrvConn.init ls = some srv)
    (hstream : (ls.filterMap (fun l => match l with | .recv r => some r | _ => none)) <+: c.sent)
    (a b : MsgId) (hab : [b, a].Sublist (SrvConn.started srv)) : [b, a].Sublist c.pushed :=
  hab.trans (start_order c hc ls srv hs hstream).1

end GorumsV.C03
