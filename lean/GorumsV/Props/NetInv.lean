import GorumsV.Model.Net
import GorumsV.Props.C05
import GorumsV.Props.C04
/-!
  The inductive invariant of the composite system from which the end-to-end statements of
  Props/Net*.lean follow.
-/
namespace GorumsV.Net

theorem isExec (P : Params) : Lts.IsExec (step P) (exec P) := ⟨fun _ => rfl, fun _ _ _ => rfl⟩

@[simp] theorem setNode_nodes_self (s : State) (n : NodeId) (x : NodeSt) : (setNode s n x).nodes n = x := by
  simp [setNode]

theorem setNode_nodes_ne (s : State) (n m : NodeId) (x : NodeSt) (h : m ≠ n) :
    (setNode s n x).nodes m = s.nodes m := by
  simp [setNode, h]

@[simp] theorem setNode_issued (s : State) (n : NodeId) (x : NodeSt) : (setNode s n x).issued = s.issued := rfl
@[simp] theorem setNode_calls (s : State) (n : NodeId) (x : NodeSt) : (setNode s n x).calls = s.calls := rfl
@[simp] theorem setNode_nextId (s : State) (n : NodeId) (x : NodeSt) : (setNode s n x).nextId = s.nextId := rfl

/-- what holds of one node, relative to the list of requests issued so far -/
structure NodeInv (P : Params) (iss : List Issue) (n : NodeId) (x : NodeSt) : Prop where
  chanReach : Chan.Reachable x.chan
  srvReach : C04.Reachable x.srv
  regIssued : ∀ q ∈ x.chan.registered, ∃ p, (⟨q.1, q.2.1, n, p⟩ : Issue) ∈ iss
  upIssued : ∀ q ∈ x.up, ∃ c, (⟨q.1, c, n, q.2⟩ : Issue) ∈ iss
  runningIssued : ∀ q ∈ x.running, ∃ c, (⟨q.1, c, n, q.2⟩ : Issue) ∈ iss
  downGenuine : ∀ q ∈ x.down, ∃ id c p, q.1 = P.replyId id ∧ (⟨id, c, n, p⟩ : Issue) ∈ iss ∧ q.2 = P.handler n p
  delivGenuine : P.Good → ∀ d ∈ x.chan.deliveries, ∀ v, d.resp = .reply v →
      ∃ p, (⟨d.id, d.call, n, p⟩ : Issue) ∈ iss ∧ P.handler n p = .reply v
  /-- handlers started on the current connection, then the requests in transit: in the order of writing -/
  stream : (SrvConn.started x.srv ++ x.up.map (·.1)).Sublist x.chan.sent

theorem NodeInv.mono {P : Params} {iss iss' : List Issue} {n : NodeId} {x : NodeSt}
    (h : NodeInv P iss n x) (hsub : ∀ a ∈ iss, a ∈ iss') : NodeInv P iss' n x :=
  { h with
    regIssued := fun q hq => (h.regIssued q hq).imp fun _ hp => hsub _ hp
    upIssued := fun q hq => (h.upIssued q hq).imp fun _ hc => hsub _ hc
    runningIssued := fun q hq => (h.runningIssued q hq).imp fun _ hc => hsub _ hc
    downGenuine := fun q hq => by
      obtain ⟨id, c, p, h1, h2, h3⟩ := h.downGenuine q hq; exact ⟨id, c, p, h1, hsub _ h2, h3⟩
    delivGenuine := fun hP d hd v hv => by
      obtain ⟨p, h1, h2⟩ := h.delivGenuine hP d hd v hv; exact ⟨p, hsub _ h1, h2⟩ }

/-- a step of a node's channel.  `sent` only grows; what the composite owes is an issue for the request
    a `register` names and, when a reply arrives, for every delivery of it the issue it answers -/
theorem NodeInv.chan {P : Params} {iss : List Issue} {n : NodeId} {x : NodeSt} (h : NodeInv P iss n x)
    {l : Chan.Label} {ch : Chan.State} (hs : Chan.step x.chan l = some ch)
    (hreg : ∀ id c st, l = .register id c st → ∃ p, (⟨id, c, n, p⟩ : Issue) ∈ iss)
    (hrep : ∀ d ∈ ch.deliveries, ∀ v, l = .recvReply d.id (.reply v) → P.Good →
      ∃ p, (⟨d.id, d.call, n, p⟩ : Issue) ∈ iss ∧ P.handler n p = .reply v) :
    NodeInv P iss n { x with chan := ch } :=
  { h with
    chanReach := Chan.isExec.reachable_step h.chanReach hs
    regIssued := fun q hq => by
      rw [C05.step_registered hs] at hq
      refine (List.mem_append.1 hq).elim (h.regIssued q) fun hq => ?_
      cases l with
      | register id c st => rw [List.mem_singleton.1 hq]; exact hreg id c st rfl
      | _ => cases hq
    delivGenuine := fun hP d hd v hv => by
      refine (C05.step_deliveries hs d hd).elim (h.delivGenuine hP d · v hv) fun hnew => ?_
      cases l with
      | recvReply id r =>
        obtain ⟨rfl, rfl⟩ := hnew
        exact hrep d hd v (by rw [hv]) hP
      | _ => exact absurd hv (hnew v)
    stream := by rw [C05.step_sent hs]; exact h.stream.trans (List.sublist_append_left _ _) }

theorem NodeInv.srv {P : Params} {iss : List Issue} {n : NodeId} {x : NodeSt} (h : NodeInv P iss n x)
    {l : SrvConn.Label} {sv : SrvConn.State} (hs : SrvConn.step x.srv l = some sv)
    (hl : ∀ r, l ≠ .recv r) : NodeInv P iss n { x with srv := sv } :=
  { h with
    srvReach := SrvConn.isExec.reachable_step h.srvReach hs
    stream := by
      rw [C04.started_step _ _ _ hs]
      cases l with
      | recv r => exact absurd rfl (hl r)
      | _ => rw [List.append_nil]; exact h.stream }

structure Inv (P : Params) (s : State) : Prop where
  callsFresh : ∀ q ∈ s.calls, q.2 < s.nextId
  callsFun : ∀ p ∈ s.calls, ∀ q ∈ s.calls, p.1 = q.1 → p.2 = q.2
  callsInj : ∀ p ∈ s.calls, ∀ q ∈ s.calls, p.2 = q.2 → p.1 = q.1
  issuedCall : ∀ a ∈ s.issued, (a.call, a.id) ∈ s.calls
  issuedOnce : ∀ a ∈ s.issued, ∀ b ∈ s.issued, a.node = b.node → a.call = b.call → a = b
  node : ∀ n, NodeInv P s.issued n (s.nodes n)

theorem Inv.issuedOnceId {P : Params} {s : State} (h : Inv P s) (a b : Issue)
    (ha : a ∈ s.issued) (hb : b ∈ s.issued) (hn : a.node = b.node) (hi : a.id = b.id) : a = b :=
  h.issuedOnce a ha b hb hn (h.callsInj _ (h.issuedCall a ha) _ (h.issuedCall b hb) hi)

theorem Inv.setNode {P : Params} {s : State} (h : Inv P s) (n : NodeId) (x : NodeSt)
    (hx : NodeInv P s.issued n x) : Inv P (setNode s n x) :=
  { h with
    node := fun m => by
      by_cases hm : m = n
      · subst hm; rw [setNode_nodes_self]; exact hx
      · rw [setNode_nodes_ne _ _ _ _ hm]; exact h.node m }

theorem inv_init (P : Params) : Inv P init := by
  refine ⟨?_, ?_, ?_, ?_, ?_, fun n => ⟨⟨[], rfl⟩, ⟨[], rfl⟩, ?_, ?_, ?_, ?_, ?_, .slnil⟩⟩
  all_goals intros; contradiction

theorem payloadOf_some (s : State) (id : Chan.MsgId) (n : NodeId) (p : Payload)
    (h : payloadOf s id n = some p) : ∃ c, (⟨id, c, n, p⟩ : Issue) ∈ s.issued := by
  unfold payloadOf at h
  obtain ⟨a, ha, rfl⟩ := Option.map_eq_some_iff.1 h
  have hp := List.find?_some ha
  simp only [Bool.and_eq_true, beq_iff_eq] at hp
  obtain ⟨rfl, rfl⟩ := hp
  exact ⟨a.call, List.mem_of_find?_eq_some ha⟩

theorem inv_newCall (P : Params) (s : State) (c : Chan.CallId) (h : Inv P s)
    (hc : ∀ q ∈ s.calls, q.1 ≠ c) :
    Inv P { s with calls := s.calls ++ [(c, s.nextId)], nextId := s.nextId + 1 } :=
  have hid : ∀ q ∈ s.calls, q.2 ≠ s.nextId := fun q hq => Nat.ne_of_lt (h.callsFresh q hq)
  { h with
    callsFresh := List.forall_mem_append.2
      ⟨fun q hq => Nat.lt_succ_of_lt (h.callsFresh q hq), List.forall_mem_singleton.2 (Nat.lt_succ_self _)⟩
    callsFun := List.forall_mem_concat h.callsFun (fun q hq e => absurd e (hc q hq))
      (fun q hq e => absurd e.symm (hc q hq)) (fun _ => rfl)
    callsInj := List.forall_mem_concat h.callsInj (fun q hq e => absurd e (hid q hq))
      (fun q hq e => absurd e.symm (hid q hq)) (fun _ => rfl)
    issuedCall := fun a ha => List.mem_append_left _ (h.issuedCall a ha) }

theorem inv_target (P : Params) (s : State) (c : Chan.CallId) (n : NodeId) (p : Payload) (st : Bool)
    (id : Chan.MsgId) (ch : Chan.State) (h : Inv P s)
    (hcall : (c, id) ∈ s.calls)
    (hnew : ∀ a ∈ s.issued, ¬ (a.call = c ∧ a.node = n))
    (hch : Chan.step (s.nodes n).chan (.register id c st) = some ch) :
    Inv P { setNode s n { s.nodes n with chan := ch } with issued := s.issued ++ [⟨id, c, n, p⟩] } :=
  have h' : Inv P { s with issued := s.issued ++ [⟨id, c, n, p⟩] } :=
    { h with
      issuedCall := List.forall_mem_append.2 ⟨h.issuedCall, List.forall_mem_singleton.2 hcall⟩
      issuedOnce := List.forall_mem_concat h.issuedOnce (fun a ha hn hcc => absurd ⟨hcc, hn⟩ (hnew a ha))
        (fun a ha hn hcc => absurd ⟨hcc.symm, hn.symm⟩ (hnew a ha)) (fun _ _ => rfl)
      node := fun m => (h.node m).mono fun a ha => List.mem_append_left _ ha }
  h'.setNode n _ <| (h'.node n).chan hch
    (fun _ _ _ e => by cases e; exact ⟨p, List.mem_append_right _ (List.mem_singleton.2 rfl)⟩) nofun

/-- the arrival of an answer: it is genuine (`downGenuine`), and the call it is delivered to is the one
    that registered its id at this node, hence the one whose request it answers -/
theorem nodeInv_recv (P : Params) (s : State) (n : NodeId) (h : Inv P s)
    (i : Chan.MsgId) (r : Chan.Resp) (rest : List (Chan.MsgId × Chan.Resp)) (ch : Chan.State)
    (hdown : (s.nodes n).down = (i, r) :: rest) (hch : Chan.step (s.nodes n).chan (.recvReply i r) = some ch) :
    NodeInv P s.issued n { s.nodes n with chan := ch, down := rest } := by
  have hN := h.node n
  have hdown' := hN.downGenuine
  rw [hdown, List.forall_mem_cons] at hdown'
  refine { hN.chan hch nofun fun d hd v e hP => ?_ with downGenuine := hdown'.2 }
  cases e
  obtain ⟨id, c, p, h1, h2, h3⟩ := hdown'.1
  obtain ⟨st, hst⟩ :=
    (C05.inv_reachable ch (Chan.isExec.reachable_step hN.chanReach hch)).deliveredToRegistrant d hd
  rw [C05.step_registered hch, List.append_nil] at hst
  obtain ⟨p', hp'⟩ := hN.regIssued _ hst
  cases h.issuedOnceId _ _ h2 hp' rfl (by rw [show d.id = P.replyId id from h1, hP id])
  exact ⟨p, hp', h3.symm⟩

theorem inv_step (P : Params) (s s' : State) (l : Label) (h : Inv P s) (hs : step P s l = some s') :
    Inv P s' := by
  cases l with
  | newCall c =>
    dsimp only [step] at hs
    split at hs
    · cases hs
    · rename_i hany
      cases hs
      exact inv_newCall P s c h fun q hq hqc => hany (List.any_eq_true.2 ⟨q, hq, beq_iff_eq.2 hqc⟩)
  | target c n p streaming =>
    dsimp only [step] at hs
    split at hs
    · cases hs
    · rename_i c' id hfind
      split at hs
      · cases hs
      · rename_i hany
        obtain ⟨ch, hch, rfl⟩ := Option.map_eq_some_iff.1 hs
        obtain rfl : c' = c := eq_of_beq (List.find?_some hfind :)
        exact inv_target P s _ n p streaming id ch h (List.mem_of_find?_eq_some hfind)
          (fun a ha hac => hany (List.any_eq_true.2
            ⟨a, ha, Bool.and_eq_true_iff.2 ⟨beq_iff_eq.2 hac.1, beq_iff_eq.2 hac.2⟩⟩)) hch
  | chan n cl =>
    dsimp only [step] at hs
    split at hs
    · rename_i hloc
      obtain ⟨ch, hch, rfl⟩ := Option.map_eq_some_iff.1 hs
      exact h.setNode n _ <| (h.node n).chan hch
        (by rintro _ _ _ rfl; cases hloc) (by rintro _ _ _ rfl; cases hloc)
    · cases hs
  | send n confirm lost =>
    dsimp only [step] at hs
    split at hs
    · cases hs
    · rename_i id hheld
      split at hs
      · cases hs
      · rename_i p hpay
        obtain ⟨ch, hch, rfl⟩ := Option.map_eq_some_iff.1 hs
        apply h.setNode
        have hN := h.node n
        have hN' := hN.chan hch nofun nofun
        cases lost with
        | true => exact hN'
        | false =>
          exact { hN' with
            upIssued := List.forall_mem_append.2
              ⟨hN.upIssued, List.forall_mem_singleton.2 (payloadOf_some s id n p hpay)⟩
            stream := by
              show (SrvConn.started (s.nodes n).srv ++ ((s.nodes n).up ++ [(id, p)]).map (·.1)).Sublist ch.sent
              rw [C05.step_sent hch, hheld, List.map_append, ← List.append_assoc]
              exact hN.stream.append (List.Sublist.refl _) }
  | srvRecv n =>
    dsimp only [step] at hs
    split at hs
    · cases hs
    · rename_i id p rest hup
      obtain ⟨sv, hsv, rfl⟩ := Option.map_eq_some_iff.1 hs
      apply h.setNode
      have hN := h.node n
      have hupI := hN.upIssued
      rw [hup, List.forall_mem_cons] at hupI
      exact { hN with
        srvReach := SrvConn.isExec.reachable_step hN.srvReach hsv
        upIssued := hupI.2
        runningIssued := List.forall_mem_append.2 ⟨hN.runningIssued, List.forall_mem_singleton.2 hupI.1⟩
        stream := by
          have := hN.stream
          rw [hup] at this
          rw [C04.started_step _ _ _ hsv, List.append_assoc]
          exact this }
  | srvRelease n id | srvAcquire n =>
    dsimp only [step] at hs
    obtain ⟨sv, hsv, rfl⟩ := Option.map_eq_some_iff.1 hs
    exact h.setNode n _ ((h.node n).srv hsv nofun)
  | srvReply n id =>
    dsimp only [step] at hs
    split at hs
    · cases hs
    · rename_i id' p hfind
      obtain ⟨sv, hsv, rfl⟩ := Option.map_eq_some_iff.1 hs
      obtain rfl : id' = id := eq_of_beq (List.find?_some hfind :)
      apply h.setNode
      have hN := (h.node n).srv hsv nofun
      obtain ⟨c, hc⟩ := hN.runningIssued _ (List.mem_of_find?_eq_some hfind)
      exact { hN with
        runningIssued := fun q hq => hN.runningIssued q (List.mem_filter.1 hq).1
        downGenuine := List.forall_mem_append.2
          ⟨hN.downGenuine, List.forall_mem_singleton.2 ⟨id', c, p, rfl, hc, rfl⟩⟩ }
  | recv n =>
    dsimp only [step] at hs
    split at hs
    · cases hs
    · rename_i i r rest hdown
      obtain ⟨ch, hch, rfl⟩ := Option.map_eq_some_iff.1 hs
      exact h.setNode n _ (nodeInv_recv P s n h i r rest ch hdown hch)
  | wireDie n =>
    cases hs
    apply h.setNode
    have hN := h.node n
    exact { hN with
      srvReach := ⟨[], rfl⟩
      upIssued := fun _ hq => nomatch hq
      runningIssued := fun _ hq => nomatch hq
      downGenuine := fun _ hq => nomatch hq
      stream := List.nil_sublist _ }

theorem inv_reachable (P : Params) (s : State) (h : Reachable P s) : Inv P s :=
  (Net.isExec P).reachable_invariant (inv_init P) (inv_step P) h

end GorumsV.Net
