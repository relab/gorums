import GorumsV.Props.C02
/-!
  C01 — a quorum call returns exactly its quorum function's verdict on genuine replies.

  Loop-level half: what the quorum function is shown, when, and what the call returns
  (theorems over `ReplyLoop.run`, read off `C02.run_cases`).  Provenance of the entries (each reply is
  what that node's handler produced for this call's request) is the routing property C05; it is
  checked on the real code by the stamps of engines qc / xtalk.
-/
namespace GorumsV.C01
open GorumsV.ReplyLoop GorumsV.C02
variable {M E R : Type}

/-- **success is exactly the quorum function's verdict**: the returned value is the value the
    quorum function returned, together with "quorum reached", on its last invocation -/
theorem ok_is_qf_verdict (P : Params) (qf : RepMap M → R × Bool) (x : Nat) (as : List (Arrival M E))
    (v : R) (log : List (RepMap M)) (h : run P qf x as = (.ok v, log)) :
    ∃ reps, log.getLast? = some reps ∧ qf reps = (v, true) := by
  rcases run_cases P qf x as with ⟨_, hr⟩ | ⟨p, s, o, rfl, _, hv, hr⟩ <;> rw [hr, Prod.mk.injEq] at h
  · cases h.1
  · obtain ⟨ha, rfl⟩ := h
    rcases adjust_eq ha with rfl | ⟨_, _, _, _, _, _, h'⟩
    · -- the deciding prefix ends in the reply on which the quorum function said yes
      rcases verdict_cases hv with ⟨h, _⟩ | ⟨_, _, _, h⟩ | ⟨he, hq, h⟩ <;> cases h
      exact ⟨replySet p, getLast?_replyLog he, Prod.ext rfl hq⟩
    · cases h'

/-- **never again after it has reported a quorum**: every invocation but the last reported "no quorum" -/
theorem no_invocation_after_quorum (P : Params) (qf : RepMap M → R × Bool) (x : Nat) (as : List (Arrival M E))
    (pre : List (RepMap M)) (reps : RepMap M) (post : List (RepMap M))
    (h : (run P qf x as).2 = pre ++ reps :: post) (hpost : post ≠ []) : (qf reps).2 = false := by
  -- `reps` is the reply set of a prefix that ends in a reply and has no verdict
  suffices ∃ q : List (Arrival M E), verdict P qf x q = none ∧ endsInReply q = true ∧ replySet q = reps by
    obtain ⟨q, hv, hr, rfl⟩ := this
    cases hq : (qf (replySet q)).2
    · rfl
    · cases (verdict_of_quorum hr hq).symm.trans hv
  have hmem : reps ∈ (run P qf x as).2.dropLast := by
    rw [h, List.dropLast_append_cons, List.dropLast_cons_of_ne_nil hpost]
    exact List.mem_append_right pre List.mem_cons_self
  -- not the last entry of the log, hence shown for a proper prefix of the deciding one, if there is one
  rcases run_cases P qf x as with ⟨hn, hr⟩ | ⟨p, s, o, rfl, hn, hv, hr⟩ <;> rw [hr] at hmem <;>
    obtain ⟨q, hq, hne, hr, rfl⟩ := mem_dropLast_replyLog hmem
  · exact ⟨q, hn q (mem_prefixes.2 hq), hr, rfl⟩
  · exact ⟨q, hn q (mem_prefixes.2 hq) hne, hr, rfl⟩

/-- **one invocation per newly arrived successful reply, in order, on the cumulative reply set**:
    there is a number `k` of consumed arrivals such that the invocation log is exactly the list of
    reply sets of the prefixes (of the first `k` arrivals) that end in a reply -/
theorem log_is_reply_prefixes (P : Params) (qf : RepMap M → R × Bool) (x : Nat) (as : List (Arrival M E)) :
    ∃ k, k ≤ as.length ∧ (run P qf x as).2 = replyLog (as.take k) := by
  rcases run_cases P qf x as with ⟨_, hr⟩ | ⟨p, s, o, rfl, _, _, hr⟩
  · exact ⟨as.length, Nat.le_refl _, by rw [hr, List.take_length]⟩
  · exact ⟨p.length, by simp, by rw [hr, List.take_left]⟩

/-- every entry shown to the quorum function is a reply that arrived for this call: an error
    arrival never creates an entry (**never an entry for a node that failed**) -/
theorem replySet_entries_are_replies (pre : List (Arrival M E)) (n : NodeId) (m : M)
    (h : (n, m) ∈ replySet pre) : Arrival.reply n m ∈ pre := by
  induction pre using List.snoc_induction with
  | nil => cases h
  | snoc pre a ih =>
    cases a with
    | reply n' m' =>
      rcases RepMap.mem_insert.1 (replySet_append_reply pre n' m' ▸ h) with h | ⟨h, _⟩
      · cases h; simp
      · exact List.mem_append_left _ (ih h)
    | _ => exact List.mem_append_left _ (ih (by simpa using h))

/-- each node has at most one entry -/
theorem replySet_keys_nodup (pre : List (Arrival M E)) : ((replySet pre).map (·.1)).Nodup := by
  induction pre using List.snoc_induction with
  | nil => exact List.nodup_nil
  | snoc pre a ih =>
    cases a with
    | reply n m => rw [replySet_append_reply]; exact RepMap.keys_nodup_insert ih n m
    | _ => simpa using ih

/-- **the reply set only grows**: a reply of a node that has not replied before adds exactly one entry
    and keeps all the others -/
theorem replySet_grows (pre : List (Arrival M E)) (n : NodeId) (m : M)
    (hnew : ∀ m', Arrival.reply n m' ∉ pre) :
    replySet (pre ++ [.reply n m]) = (n, m) :: replySet pre := by
  rw [replySet_append_reply]
  apply RepMap.insert_of_not_mem
  rintro ⟨n', m'⟩ hp rfl
  exact hnew m' (replySet_entries_are_replies pre _ m' hp)

/-- the size of the reply set is bounded by the number of arrivals -/
theorem replySet_length_le (pre : List (Arrival M E)) : (replySet pre).length ≤ pre.length :=
  Nat.le_trans (Nat.le_add_left _ _) (errsOf_replySet_length_le pre)

/-- the asynchronous variant invokes the quorum function exactly like the synchronous one -/
theorem async_same_log (P : Params) (qf : RepMap M → R × Bool) (x : Nat) (as : List (Arrival M E)) :
    (runAsync P qf x as).2 = (run P qf x as).2 := by
  unfold runAsync
  split <;> simp_all

end GorumsV.C01
