import GorumsV.Model.Chan
import GorumsV.Lemmas.Lts
import GorumsV.Lemmas.Basic
/-!
  C05 / C18 / C03 (client half) / C07 (connection half) — invariants of the node-channel model `GorumsV.Chan`.

  C05: replies reach only the call that asked, at most once for non-streaming calls; late
       replies are dropped.
  C18: a completed (answered) non-streaming request leaves no router; the router table is
       bounded by the registrations.
  C03: the order in which requests are written to the stream respects the order in which the
       hand-offs completed.
  C07: when the stream goes down every pending request is answered with an error; a request
       (streaming or not) is answered with at most one error, and nothing after it: a failing
       node is reported once (the repair of defect D18: a streaming router used to survive an
       error, so that a node whose handler failed and whose connection then broke was reported
       twice and counted as two failed nodes).
-/
theorem GorumsV.Chan.isExec : GorumsV.Lts.IsExec GorumsV.Chan.step GorumsV.Chan.exec := ⟨fun _ => rfl, fun _ _ _ => rfl⟩

namespace GorumsV.C05
open GorumsV.Chan

structure Inv (s : State) : Prop where
  /-- every router was registered, by the call it points to, with its streaming flag -/
  routerRegistered : ∀ x ∈ s.routers, (x.id, x.call, x.streaming) ∈ s.registered
  /-- ids are registered at most once, so there is at most one router per id -/
  registeredNodup : (s.registered.map (·.1)).Nodup
  routersNodup : (s.routers.map (·.id)).Nodup
  /-- every delivery went to the registrant of its id -/
  deliveredToRegistrant : ∀ d ∈ s.deliveries, ∃ st, (d.id, d.call, st) ∈ s.registered
  /-- a non-streaming request: while its router exists nothing was delivered; afterwards at most one delivery -/
  nonStreaming : ∀ id c, (id, c, false) ∈ s.registered →
      (hasRouter s id = true → deliveriesOf s id = []) ∧ (deliveriesOf s id).length ≤ 1
  /-- queue bookkeeping: what was pushed is what was popped followed by what is still queued -/
  queue : s.pushed = s.popped ++ s.sendQ
  pushedNodup : s.pushed.Nodup
  /-- what was written to the stream is, in order, among what was popped -/
  sentSub : s.sent.Sublist s.popped
  /-- (strengthening) the request the sender holds is the last one popped and was not yet written -/
  heldLast : ∀ id, s.held = some id → ∃ pre, s.popped = pre ++ [id] ∧ s.sent.Sublist pre
  /-- (D18) a request that has been answered with an error keeps no router, streaming or not -/
  noRouterAfterErr : ∀ d ∈ s.deliveries, d.resp.isErr = true → hasRouter s d.id = false
  /-- (D18) whatever was delivered for an id before its last delivery is not an error -/
  errLast : ∀ id, ∀ d ∈ (deliveriesOf s id).dropLast, d.resp.isErr = false

inductive Step : State → Label → State → Prop
  | register {s id c st} (hfresh : id ∉ s.registered.map (·.1)) :
      Step s (.register id c st)
        { s with routers := ⟨id, c, st⟩ :: s.routers, registered := s.registered ++ [(id, c, st)] }
  | handoff {s id} (hfresh : id ∉ s.pushed) :
      Step s (.handoff id) { s with sendQ := s.sendQ ++ [id], pushed := s.pushed ++ [id] }
  | closedAnswer {s id} : Step s (.closedAnswer id) (route s id (.err 2))
  | pop {s id q} (hheld : s.held = none) (hq : s.sendQ = id :: q) :
      Step s .pop { s with sendQ := q, popped := s.popped ++ [id], held := some id }
  | sendOk {s id confirm} (hheld : s.held = some id) :
      Step s (.sendOk confirm)
        (if confirm then route { s with held := none, sent := s.sent ++ [id] } id .sent
         else { s with held := none, sent := s.sent ++ [id] })
  | sendFail {s id kind confirm} (hheld : s.held = some id) :
      Step s (.sendFail kind confirm)
        (route (if confirm then route { s with held := none } id .sent else { s with held := none }) id (.err kind))
  | recvReply {s id r} : Step s (.recvReply id r) (route s id r)
  | streamDown {s} : Step s .streamDown (cancelAll s)
  | replaceCancel {s} : Step s .replaceCancel (cancelWritten s)
  | deleteRouter {s id} : Step s (.deleteRouter id) { s with routers := s.routers.filter (fun y => y.id != id) }

theorem Step.of_step {s s' : State} {l : Label} (h : step s l = some s') : Step s l s' := by
  cases l with
  | register id c st =>
    obtain ⟨hfresh, h⟩ := Option.ite_none_left_eq_some.1 h
    cases h
    exact .register fun hm => hfresh (by
      obtain ⟨q, hq, rfl⟩ := List.mem_map.1 hm
      exact List.any_eq_true.2 ⟨q, hq, beq_self_eq_true _⟩)
  | handoff id =>
    obtain ⟨hfresh, h⟩ := Option.ite_none_left_eq_some.1 h
    cases h
    exact .handoff fun hm => hfresh (List.contains_iff_mem.2 hm)
  | pop =>
    simp only [step] at h
    split at h
    · rename_i hheld hq
      cases h
      exact .pop hheld hq
    · cases h
  | sendOk confirm =>
    simp only [step] at h
    split at h
    · cases h
    · rename_i hheld
      cases h
      exact .sendOk hheld
  | sendFail kind confirm =>
    simp only [step] at h
    split at h
    · cases h
    · rename_i hheld
      cases h
      exact .sendFail hheld
  | closedAnswer id => cases h; exact .closedAnswer
  | recvReply id r => cases h; exact .recvReply
  | streamDown => cases h; exact .streamDown
  | replaceCancel => cases h; exact .replaceCancel
  | deleteRouter id => cases h; exact .deleteRouter

theorem reg_unique {reg : List (MsgId × CallId × Bool)} (hn : (reg.map (·.1)).Nodup)
    {id : MsgId} {c c' : CallId} {st st' : Bool}
    (h1 : (id, c, st) ∈ reg) (h2 : (id, c', st') ∈ reg) : c = c' ∧ st = st' := by
  cases List.eq_of_nodup_map hn h1 h2 rfl
  exact ⟨rfl, rfl⟩

theorem hasRouter_iff (s : State) (id : MsgId) : hasRouter s id = true ↔ ∃ x ∈ s.routers, x.id = id := by
  simp [hasRouter, List.any_eq_true]

theorem hasRouter_eq_false_iff (s : State) (id : MsgId) : hasRouter s id = false ↔ ∀ y ∈ s.routers, y.id ≠ id := by
  simp [hasRouter, List.any_eq_false]

theorem hasRouter_of_subset {s s' : State} (hsub : s'.routers ⊆ s.routers) {id : MsgId}
    (h : hasRouter s' id = true) : hasRouter s id = true := by
  rw [hasRouter_iff] at h ⊢
  obtain ⟨y, hy, hyid⟩ := h
  exact ⟨y, hsub hy, hyid⟩

theorem mem_deliveriesOf {s : State} {id : MsgId} {d : Delivery} :
    d ∈ deliveriesOf s id ↔ d ∈ s.deliveries ∧ d.id = id := by
  simp [deliveriesOf]

theorem noErr_of_hasRouter {s : State} (h : ∀ d ∈ s.deliveries, d.resp.isErr = true → hasRouter s d.id = false)
    {id : MsgId} (hr : hasRouter s id = true) : ∀ d ∈ deliveriesOf s id, d.resp.isErr = false := by
  intro d hd
  obtain ⟨hd', rfl⟩ := mem_deliveriesOf.1 hd
  exact Bool.eq_false_iff.2 fun he => by rw [h d hd' he] at hr; cases hr

theorem filter_id_cases (l : List Router) (id : MsgId) (hn : (l.map (·.id)).Nodup) :
    l.filter (fun x => x.id == id) = [] ∨ ∃ x, l.filter (fun x => x.id == id) = [x] := by
  induction l with
  | nil => exact Or.inl rfl
  | cons a t ih =>
    rw [List.map_cons, List.nodup_cons] at hn
    rw [List.filter_cons]
    split
    · rename_i ha
      have : t.filter (fun x => x.id == id) = [] :=
        List.filter_eq_nil_iff.2 fun b hb hbid =>
          hn.1 (List.mem_map.2 ⟨b, hb, (eq_of_beq hbid).trans (eq_of_beq ha).symm⟩)
      exact Or.inr ⟨a, by rw [this]⟩
    · exact ih hn.2

/-! `routeResponse` and both flavours of `cancelPendingMsgs` do the same thing to the state: some of the
routers (`ans`) are answered with a response `r`, and the table shrinks to `R`.  The invariant is
preserved whenever an answered router is dropped unless it is a streaming one answered with a non-error. -/

def answer (s : State) (ans : List Router) (r : Resp) (R : List Router) : State :=
  { s with deliveries := s.deliveries ++ ans.map (fun x => ⟨x.id, x.call, r⟩), routers := R }

theorem mem_answer_deliveries {s : State} {ans R : List Router} {r : Resp} {d : Delivery}
    (hd : d ∈ (answer s ans r R).deliveries) : d ∈ s.deliveries ∨ ∃ x ∈ ans, d = ⟨x.id, x.call, r⟩ :=
  (List.mem_append.1 hd).imp_right fun hd => (List.mem_map.1 hd).imp fun _ h => ⟨h.1, h.2.symm⟩

theorem deliveriesOf_answer (s : State) {ans : List Router} (r : Resp) (R : List Router)
    (hn : (ans.map (·.id)).Nodup) (id : MsgId) :
    deliveriesOf (answer s ans r R) id = deliveriesOf s id ∨
    ∃ x ∈ ans, x.id = id ∧ deliveriesOf (answer s ans r R) id = deliveriesOf s id ++ [⟨x.id, x.call, r⟩] := by
  have e : deliveriesOf (answer s ans r R) id
      = deliveriesOf s id ++ (ans.filter (fun x => x.id == id)).map (fun x => (⟨x.id, x.call, r⟩ : Delivery)) := by
    simp only [answer, deliveriesOf, List.filter_append, List.filter_map]
    rfl
  rcases filter_id_cases ans id hn with hf | ⟨x, hf⟩
  · exact Or.inl (by rw [e, hf, List.map_nil, List.append_nil])
  · have hx := List.mem_filter.1 (hf ▸ List.mem_singleton_self x)
    exact Or.inr ⟨x, hx.1, eq_of_beq hx.2, by rw [e, hf]; rfl⟩

theorem inv_answer {s : State} (h : Inv s) {ans R : List Router} (r : Resp)
    (hans : ans.Sublist s.routers) (hR : R.Sublist s.routers)
    (hdrop : ∀ x ∈ ans, (x.streaming && !r.isErr) = false → ∀ y ∈ R, y.id ≠ x.id) :
    Inv (answer s ans r R) := by
  have hn : (ans.map (·.id)).Nodup := (hans.map _).nodup h.routersNodup
  have hsub : (answer s ans r R).routers ⊆ s.routers := hR.subset
  have hhas : ∀ x ∈ ans, hasRouter s x.id = true := fun x hx => (hasRouter_iff s _).2 ⟨x, hans.subset hx, rfl⟩
  refine { h with routerRegistered := ?_, routersNodup := ?_, deliveredToRegistrant := ?_,
                  nonStreaming := ?_, noRouterAfterErr := ?_, errLast := ?_ }
  · exact fun y hy => h.routerRegistered y (hsub hy)
  · exact (hR.map _).nodup h.routersNodup
  · intro d hd
    rcases mem_answer_deliveries hd with hd | ⟨x, hx, rfl⟩
    · exact h.deliveredToRegistrant d hd
    · exact ⟨x.streaming, h.routerRegistered x (hans.subset hx)⟩
  · intro id c hc
    have hold := h.nonStreaming id c hc
    rcases deliveriesOf_answer s r R hn id with e | ⟨x, hx, rfl, e⟩ <;> rw [e]
    · exact ⟨fun hr => hold.1 (hasRouter_of_subset hsub hr), hold.2⟩
    · -- the answered router is a non-streaming one: nothing was delivered before, and it is dropped
      have hst : x.streaming = false :=
        (reg_unique h.registeredNodup (h.routerRegistered x (hans.subset hx)) hc).2
      have hno := (hasRouter_eq_false_iff (answer s ans r R) x.id).2 (hdrop x hx (by rw [hst]; rfl))
      rw [hold.1 (hhas x hx), hno]
      exact ⟨fun hr => (nomatch hr), Nat.le_refl 1⟩
  · intro d hd he
    rcases mem_answer_deliveries hd with hd | ⟨x, hx, rfl⟩
    · exact Bool.eq_false_iff.2 fun hr =>
        Bool.eq_false_iff.1 (h.noRouterAfterErr d hd he) (hasRouter_of_subset hsub hr)
    · exact (hasRouter_eq_false_iff _ _).2
        (hdrop x hx (by rw [show r.isErr = true from he, Bool.not_true, Bool.and_false]))
  · intro id d hd
    rcases deliveriesOf_answer s r R hn id with e | ⟨x, hx, rfl, e⟩ <;> rw [e] at hd
    · exact h.errLast id d hd
    · -- the answered router existed, so nothing delivered for it so far is an error
      rw [List.dropLast_concat] at hd
      exact noErr_of_hasRouter h.noRouterAfterErr (hhas x hx) d hd

theorem route_cases (s : State) (id : MsgId) (r : Resp) :
    (hasRouter s id = false ∧ route s id r = s) ∨
    ∃ x ∈ s.routers, x.id = id ∧ route s id r =
      answer s [x] r (if x.streaming && !r.isErr then s.routers else s.routers.filter (fun y => y.id != id)) := by
  unfold route
  cases hf : s.routers.find? (fun x => x.id == id) with
  | none =>
    rw [List.find?_eq_none] at hf
    exact Or.inl ⟨(hasRouter_eq_false_iff s id).2 (fun y hy e => hf y hy (by simp [e])), rfl⟩
  | some x =>
    have hxid : x.id = id := by simpa using List.find?_some hf
    subst hxid
    exact Or.inr ⟨x, List.mem_of_find?_eq_some hf, rfl, rfl⟩

theorem route_noRouter (s : State) (id : MsgId) (r : Resp) (h : hasRouter s id = false) : route s id r = s := by
  rcases route_cases s id r with ⟨_, e⟩ | ⟨x, hx, hxid, _⟩
  · exact e
  · rw [(hasRouter_iff s id).2 ⟨x, hx, hxid⟩] at h; cases h

/-- the parts of the state `route` does not touch -/
theorem route_frame (s : State) (id : MsgId) (r : Resp) :
    (route s id r).registered = s.registered ∧ (route s id r).pushed = s.pushed ∧
    (route s id r).sendQ = s.sendQ ∧ (route s id r).popped = s.popped ∧
    (route s id r).held = s.held ∧ (route s id r).sent = s.sent := by
  unfold route; split <;> simp

theorem inv_route {s : State} (h : Inv s) (id : MsgId) (r : Resp) : Inv (route s id r) := by
  rcases route_cases s id r with ⟨_, e⟩ | ⟨x, hx, rfl, e⟩ <;> rw [e]
  · exact h
  · refine inv_answer h r (List.singleton_sublist.2 hx) ?_ ?_
    · split
      · exact List.Sublist.refl _
      · exact List.filter_sublist
    · intro x' hx' hk y hy
      rw [List.mem_singleton.1 hx'] at hk ⊢
      rw [hk] at hy
      simpa using (List.mem_filter.1 hy).2

theorem inv_cancelAll {s : State} (h : Inv s) : Inv (cancelAll s) :=
  inv_answer h (.err 0) (List.Sublist.refl _) (List.nil_sublist _) (fun _ _ _ _ hy => nomatch hy)

/-- `cancelPendingMsgs(true)`: the answered requests were written, the routers that are kept are of
    requests that were not -/
theorem inv_cancelWritten {s : State} (h : Inv s) : Inv (cancelWritten s) :=
  inv_answer h (.err 0) List.filter_sublist List.filter_sublist (fun x hx _ y hy e => by
    have h1 := (List.mem_filter.1 hx).2
    have h2 := (List.mem_filter.1 hy).2
    rw [e, h1] at h2
    cases h2)

theorem inv_deleteRouter {s : State} (h : Inv s) (id : MsgId) :
    Inv { s with routers := s.routers.filter (fun y => y.id != id) } := by
  simpa [answer] using inv_answer h (ans := []) (R := s.routers.filter (fun y => y.id != id)) (.err 0)
    (List.nil_sublist _) List.filter_sublist (fun _ hx => nomatch hx)

theorem inv_register {s : State} (h : Inv s) (id : MsgId) (c : CallId) (st : Bool)
    (hfresh : id ∉ s.registered.map (·.1)) :
    Inv { s with routers := ⟨id, c, st⟩ :: s.routers, registered := s.registered ++ [(id, c, st)] } := by
  -- a fresh id has no router and no delivery, and the table changes at no other id
  have hnoR : ∀ x ∈ s.routers, x.id ≠ id := fun x hx e =>
    hfresh (e ▸ List.mem_map_of_mem (h.routerRegistered x hx))
  have hnoD : ∀ d ∈ s.deliveries, d.id ≠ id := fun d hd e =>
    (h.deliveredToRegistrant d hd).elim fun _ hst => hfresh (e ▸ List.mem_map_of_mem hst)
  have hother : ∀ id', id' ≠ id → ∀ reg,
      hasRouter { s with routers := ⟨id, c, st⟩ :: s.routers, registered := reg } id' = hasRouter s id' := by
    intro id' hne reg
    show ((id == id') || hasRouter s id') = hasRouter s id'
    rw [beq_false_of_ne (Ne.symm hne), Bool.false_or]
  refine { h with routerRegistered := ?_, registeredNodup := ?_, routersNodup := ?_,
                  deliveredToRegistrant := ?_, nonStreaming := ?_, noRouterAfterErr := ?_ }
  · exact List.forall_mem_cons.2 ⟨List.mem_append_right _ (List.mem_singleton.2 rfl),
      fun x hx => List.mem_append_left _ (h.routerRegistered x hx)⟩
  · show ((s.registered ++ [(id, c, st)]).map (·.1)).Nodup
    rw [List.map_append]
    exact List.nodup_append_singleton.2 ⟨h.registeredNodup, hfresh⟩
  · refine List.nodup_cons.2 ⟨fun hm => ?_, h.routersNodup⟩
    obtain ⟨x, hx, hxid⟩ := List.mem_map.1 hm
    exact hnoR x hx hxid
  · exact fun d hd => (h.deliveredToRegistrant d hd).imp fun _ hst => List.mem_append_left _ hst
  · intro id' c' hc
    by_cases hid : id' = id
    · have : deliveriesOf s id' = [] := List.eq_nil_iff_forall_not_mem.2 fun d hd =>
        hnoD d (mem_deliveriesOf.1 hd).1 ((mem_deliveriesOf.1 hd).2.trans hid)
      exact ⟨fun _ => this, by show (deliveriesOf s id').length ≤ 1; rw [this]; exact Nat.zero_le 1⟩
    · rw [hother id' hid]
      refine h.nonStreaming id' c' ((List.mem_append.1 hc).resolve_right fun hc => ?_)
      exact hid (congrArg Prod.fst (List.mem_singleton.1 hc))
  · intro d hd he
    rw [hother d.id (hnoD d hd)]
    exact h.noRouterAfterErr d hd he

theorem inv_handoff {s : State} (h : Inv s) (id : MsgId) (hfresh : id ∉ s.pushed) :
    Inv { s with sendQ := s.sendQ ++ [id], pushed := s.pushed ++ [id] } :=
  { h with
    queue := by show s.pushed ++ [id] = s.popped ++ (s.sendQ ++ [id]); rw [h.queue, List.append_assoc]
    pushedNodup := List.nodup_append_singleton.2 ⟨h.pushedNodup, hfresh⟩ }

theorem inv_pop {s : State} (h : Inv s) (id : MsgId) (q : List MsgId) (hq : s.sendQ = id :: q) :
    Inv { s with sendQ := q, popped := s.popped ++ [id], held := some id } :=
  { h with
    queue := by show s.pushed = (s.popped ++ [id]) ++ q; rw [h.queue, hq, List.append_assoc]; rfl
    sentSub := List.sublist_append_of_sublist_left h.sentSub
    heldLast := fun id' e => by cases e; exact ⟨s.popped, rfl, h.sentSub⟩ }

theorem inv_release {s : State} (h : Inv s) : Inv { s with held := none } :=
  { h with heldLast := fun _ hh => nomatch hh }

theorem inv_written {s : State} (h : Inv s) (id : MsgId) (hh : s.held = some id) :
    Inv { s with held := none, sent := s.sent ++ [id] } := by
  obtain ⟨pre, hp, hsub⟩ := h.heldLast id hh
  exact { h with
    sentSub := by show (s.sent ++ [id]).Sublist s.popped; rw [hp]; exact hsub.append (List.Sublist.refl _)
    heldLast := fun _ hh => nomatch hh }

theorem inv_init : Inv init := by
  refine { routerRegistered := ?_, registeredNodup := .nil, routersNodup := .nil,
           deliveredToRegistrant := ?_, nonStreaming := ?_, queue := rfl,
           pushedNodup := .nil, sentSub := .slnil, heldLast := ?_,
           noRouterAfterErr := ?_, errLast := ?_ }
  all_goals intros; contradiction

theorem inv_step (s s' : State) (l : Label) (h : Inv s) (hs : step s l = some s') : Inv s' := by
  cases Step.of_step hs with
  | register hfresh => exact inv_register h _ _ _ hfresh
  | handoff hfresh => exact inv_handoff h _ hfresh
  | pop _ hq => exact inv_pop h _ _ hq
  | sendOk hheld =>
    split
    · exact inv_route (inv_written h _ hheld) _ _
    · exact inv_written h _ hheld
  | sendFail =>
    refine inv_route ?_ _ _
    split
    · exact inv_route (inv_release h) _ _
    · exact inv_release h
  | closedAnswer | recvReply => exact inv_route h _ _
  | streamDown => exact inv_cancelAll h
  | replaceCancel => exact inv_cancelWritten h
  | deleteRouter => exact inv_deleteRouter h _

theorem inv_reachable (s : State) (h : Reachable s) : Inv s :=
  Chan.isExec.reachable_invariant inv_init inv_step h

theorem route_registered (s : State) (id : MsgId) (r : Resp) : (route s id r).registered = s.registered :=
  (route_frame s id r).1

theorem route_sent (s : State) (id : MsgId) (r : Resp) : (route s id r).sent = s.sent :=
  (route_frame s id r).2.2.2.2.2

theorem route_deliveries {s : State} {id : MsgId} {r : Resp} {d : Delivery} (hd : d ∈ (route s id r).deliveries) :
    d ∈ s.deliveries ∨ (d.id = id ∧ d.resp = r) := by
  rcases route_cases s id r with ⟨_, e⟩ | ⟨x, _, rfl, e⟩ <;> rw [e] at hd
  · exact Or.inl hd
  · exact (mem_answer_deliveries hd).imp_right fun ⟨y, hy, e⟩ => by rw [e, List.mem_singleton.1 hy]; exact ⟨rfl, rfl⟩

theorem step_registered {s s' : State} {l : Label} (h : step s l = some s') :
    s'.registered = s.registered ++ (match (generalizing := false) l with | .register id c st => [(id, c, st)] | _ => []) := by
  cases Step.of_step h with
  | register => rfl
  | _ => simp only [route_registered, apply_ite State.registered, ite_self, cancelAll, cancelWritten, List.append_nil]

theorem step_sent {s s' : State} {l : Label} (h : step s l = some s') :
    s'.sent = s.sent ++ (match (generalizing := false) l with | .sendOk _ => s.held.toList | _ => []) := by
  cases Step.of_step h with
  | sendOk hheld => simp only [route_sent, apply_ite State.sent, ite_self, hheld, Option.toList_some]
  | _ => simp only [route_sent, apply_ite State.sent, ite_self, cancelAll, cancelWritten, List.append_nil]

theorem route_noreply {s : State} {id : MsgId} {r : Resp} {d : Delivery} (hd : d ∈ (route s id r).deliveries)
    (hr : ∀ v, r ≠ .reply v) : d ∈ s.deliveries ∨ ∀ v, d.resp ≠ .reply v :=
  (route_deliveries hd).imp_right fun ⟨_, e⟩ v => e ▸ hr v

theorem step_deliveries {s s' : State} {l : Label} (h : step s l = some s') (d : Delivery) (hd : d ∈ s'.deliveries) :
    d ∈ s.deliveries ∨
      (match (generalizing := false) l with | .recvReply id r => d.id = id ∧ d.resp = r | _ => ∀ v, d.resp ≠ .reply v) := by
  have hcancel : ∀ {ans : List Router} {R}, d ∈ (answer s ans (.err 0) R).deliveries →
      d ∈ s.deliveries ∨ ∀ v, d.resp ≠ .reply v := fun hd =>
    (mem_answer_deliveries hd).imp_right fun ⟨_, _, e⟩ _ => e ▸ nofun
  cases Step.of_step h with
  | register | handoff | pop | deleteRouter => exact Or.inl hd
  | closedAnswer => exact route_noreply hd (fun _ => nofun)
  | recvReply => exact route_deliveries hd
  | streamDown | replaceCancel => exact hcancel hd
  | sendOk =>
    split at hd
    · exact (route_noreply hd (fun _ => nofun) :)
    · exact Or.inl hd
  | sendFail =>
    refine (route_noreply hd (fun _ => nofun)).elim (fun hd => ?_) Or.inr
    split at hd
    · exact (route_noreply hd (fun _ => nofun) :)
    · exact Or.inl hd

/-- **C05: each reply or error is delivered to the call whose request caused it** -/
theorem delivered_only_to_registrant (s : State) (h : Reachable s) (d : Delivery) (hd : d ∈ s.deliveries) :
    (∃ st, (d.id, d.call, st) ∈ s.registered) ∧ ∀ c st, (d.id, c, st) ∈ s.registered → c = d.call := by
  have hi := inv_reachable s h
  obtain ⟨st0, h0⟩ := hi.deliveredToRegistrant d hd
  exact ⟨⟨st0, h0⟩, fun c st hc => (reg_unique hi.registeredNodup hc h0).1⟩

def countDeliveries (s : State) (id : MsgId) : Nat := (deliveriesOf s id).length

/-- **C05: at most once per node for non-streaming calls** -/
theorem at_most_once (s : State) (h : Reachable s) (id : MsgId) (c : CallId)
    (hreg : (id, c, false) ∈ s.registered) : countDeliveries s id ≤ 1 :=
  ((inv_reachable s h).nonStreaming id c hreg).2

/-- **C05: replies that arrive after their call's router is gone are discarded** -/
theorem late_reply_dropped (s : State) (id : MsgId) (r : Resp) (h : hasRouter s id = false) :
    step s (.recvReply id r) = some s := by
  simp only [step, route_noRouter s id r h]

/-- **C18: once a non-streaming request has been answered no routing state is kept for it** -/
theorem no_router_after_answer (s : State) (h : Reachable s) (id : MsgId) (c : CallId)
    (hreg : (id, c, false) ∈ s.registered) (hd : countDeliveries s id = 1) : hasRouter s id = false :=
  Bool.eq_false_iff.2 fun hr => by
    rw [countDeliveries, ((inv_reachable s h).nonStreaming id c hreg).1 hr] at hd
    cases hd

/-- **C18: the router table is bounded by the registrations**: every router belongs to a registered
    request, one router per request -/
theorem routers_bounded (s : State) (h : Reachable s) : s.routers.length ≤ s.registered.length := by
  have hi := inv_reachable s h
  have hsub : s.routers.map (·.id) ⊆ s.registered.map (·.1) := by
    intro a ha
    obtain ⟨x, hx, rfl⟩ := List.mem_map.1 ha
    exact List.mem_map_of_mem (f := (·.1)) (hi.routerRegistered x hx)
  simpa using hi.routersNodup.length_le_of_subset hsub

/-- **C18: a streaming router disappears when its call's deferred deletion runs** -/
theorem deleteRouter_removes (s s' : State) (id : MsgId) (hs : step s (.deleteRouter id) = some s') :
    hasRouter s' id = false := by
  cases hs
  exact (hasRouter_eq_false_iff _ id).2 (fun y hy => by simpa using (List.mem_filter.1 hy).2)

/-- **C07: when the connection breaks every pending request is completed with an error** (and
    every router is removed: no further reply can arrive on a stream that is down) -/
theorem streamDown_answers_all (s s' : State) (hs : step s .streamDown = some s') :
    (∀ x ∈ s.routers, ⟨x.id, x.call, .err 0⟩ ∈ s'.deliveries) ∧ s'.routers = [] := by
  cases hs
  exact ⟨fun x hx => List.mem_append_right _ (List.mem_map.2 ⟨x, hx, rfl⟩), rfl⟩

/-- (the first half of the sentence below) whatever was delivered for a request before another delivery
    was not an error -/
theorem no_error_before_error (s : State) (h : Reachable s) (id : MsgId) (pre post : List Delivery) (d : Delivery)
    (hd : deliveriesOf s id = pre ++ d :: post) : ∀ d' ∈ pre, d'.resp.isErr = false := by
  intro d' hd'
  apply (inv_reachable s h).errLast id d'
  rw [hd, List.dropLast_append_of_ne_nil (by simp)]
  exact List.mem_append_left _ hd'

/-- **C07 / C11: an error is the last thing delivered for a request**, streaming or not: nothing follows it
    (and nothing delivered before it was an error: `no_error_before_error`) -/
theorem error_is_last (s : State) (h : Reachable s) (id : MsgId) (pre post : List Delivery) (d : Delivery)
    (hd : deliveriesOf s id = pre ++ d :: post) (he : d.resp.isErr = true) : post = [] := by
  cases post with
  | nil => rfl
  | cons p ps =>
    have := no_error_before_error s h id (pre ++ [d]) ps p (by rw [hd, List.append_assoc]; rfl) d (by simp)
    rw [he] at this
    cases this

/-- a list in which only the last element may be an error holds at most one error -/
theorem filter_err_length_le_one (l : List Delivery) (h : ∀ d ∈ l.dropLast, d.resp.isErr = false) :
    (l.filter (fun d => d.resp.isErr)).length ≤ 1 := by
  rcases List.eq_nil_or_snoc l with rfl | ⟨l', a, rfl⟩
  · exact Nat.zero_le 1
  · rw [List.dropLast_concat] at h
    rw [List.filter_append, List.filter_eq_nil_iff.2 fun d hd => by simp [h d hd], List.nil_append]
    exact List.length_filter_le _ [a]

/-- **C07: a failing node is reported once per request**: at most one error delivery per message id -/
theorem at_most_one_error (s : State) (h : Reachable s) (id : MsgId) :
    ((deliveriesOf s id).filter (fun d => d.resp.isErr)).length ≤ 1 :=
  filter_err_length_le_one _ ((inv_reachable s h).errLast id)

/-- **C18: a request that has been answered with an error keeps no router**, streaming or not -/
theorem no_router_after_error (s : State) (h : Reachable s) (d : Delivery) (hd : d ∈ s.deliveries)
    (he : d.resp.isErr = true) : hasRouter s d.id = false :=
  (inv_reachable s h).noRouterAfterErr d hd he

/-- Why the deletion on error matters: with a router that survives an error (the pinned code) the same
    request is answered with two errors — the handler's and the stream-down one.  Stated on three literal
    states, with the pinned `routeResponse` / `cancelPendingMsgs` written out. -/
theorem pinned_streaming_router_reports_twice :
    let s1 : State := { routers := [⟨1, 7, true⟩], registered := [(1, 7, true)] }
    -- old routeResponse: a streaming router is kept, also on an error
    let s2 : State := { s1 with deliveries := s1.deliveries ++ [⟨1, 7, .err 3⟩] }
    -- old cancelPendingMsgs: streaming routers are answered and kept
    let s3 : State := { s2 with deliveries := s2.deliveries ++ s2.routers.map (fun x => ⟨x.id, x.call, .err 0⟩) }
    ((deliveriesOf s3 1).filter (fun d => d.resp.isErr)).length = 2 := by
  decide

/-- **C18 / C07: whoever replaces a stream answers what was written to it**: after `replaceCancel` every
    request that had been written to a stream and was still pending has been answered with an error, no
    written request keeps a router, and the requests that have not been written yet keep theirs -/
theorem replaceCancel_answers_written (s s' : State) (hs : step s .replaceCancel = some s') :
    (∀ x ∈ s.routers, s.sent.contains x.id = true → ⟨x.id, x.call, .err 0⟩ ∈ s'.deliveries) ∧
    (∀ x ∈ s'.routers, s.sent.contains x.id = false) ∧
    (∀ x ∈ s.routers, s.sent.contains x.id = false → x ∈ s'.routers) := by
  cases hs
  refine ⟨?_, ?_, ?_⟩
  · intro x hx hw
    exact List.mem_append_right _ (List.mem_map.2 ⟨x, List.mem_filter.2 ⟨hx, hw⟩, rfl⟩)
  · intro x hx
    simpa using (List.mem_filter.1 hx).2
  · intro x hx hw
    exact List.mem_filter.2 ⟨hx, by rw [hw]; rfl⟩

/-- **C03 (client half): requests are written to the stream in the order in which their hand-offs
    completed**; each at most once -/
theorem sent_in_handoff_order (s : State) (h : Reachable s) : s.sent.Sublist s.pushed ∧ s.pushed.Nodup := by
  have hi := inv_reachable s h
  refine ⟨?_, hi.pushedNodup⟩
  rw [hi.queue]
  exact List.sublist_append_of_sublist_left hi.sentSub

/-- the send queue is FIFO: what the sender has taken is a prefix of what was pushed -/
theorem popped_prefix_of_pushed (s : State) (h : Reachable s) : s.popped <+: s.pushed := by
  rw [(inv_reachable s h).queue]
  exact List.prefix_append _ _

/-- non-vacuity: a streaming request whose handler fails and whose connection then breaks is answered once -/
example : ∃ s, exec init [.register 1 7 true, .handoff 1, .pop, .sendOk false, .recvReply 1 (.reply 4),
      .recvReply 1 (.err 3), .streamDown, .recvReply 1 (.reply 5)] = some s ∧
    s.deliveries = [⟨1, 7, .reply 4⟩, ⟨1, 7, .err 3⟩] ∧ s.routers = [] := by
  refine ⟨_, rfl, ?_, ?_⟩ <;> decide

/-- non-vacuity: a concrete execution with a late reply after a cancellation of the stream -/
example : ∃ s, exec init [.register 1 7 false, .handoff 1, .pop, .sendOk false, .streamDown, .recvReply 1 (.reply 5)] = some s ∧
    s.deliveries = [⟨1, 7, .err 0⟩] ∧ s.routers = [] := by
  refine ⟨_, rfl, ?_, ?_⟩ <;> decide

end GorumsV.C05
