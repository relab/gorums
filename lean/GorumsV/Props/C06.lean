import GorumsV.Model.ReplyLoop
/-!
  C06 — each node gets exactly its own message; one-way calls never wait for handlers
  (the targeting loop shared by all call types, and the multicast wait loop).
-/
namespace GorumsV.C06
open GorumsV.ReplyLoop
variable {Q : Type}

/-- **without a per-node function every node receives the caller's request** -/
theorem targets_none (cfg : List NodeId) (req : Q) : targets cfg none req = cfg.map (fun n => (n, req)) := rfl

/-- **with a per-node function f, node i receives exactly f(request, i)**, and nodes for which f
    yields no message receive nothing -/
theorem targets_some (cfg : List NodeId) (f : Q → NodeId → Option Q) (req : Q) (n : NodeId) (q : Q) :
    (n, q) ∈ targets cfg (some f) req ↔ n ∈ cfg ∧ f req n = some q := by
  simp [targets]

theorem targets_keys (cfg : List NodeId) (f : Q → NodeId → Option Q) (req : Q) :
    (targets cfg (some f) req).map (·.1) = cfg.filter (fun n => (f req n).isSome) := by
  rw [targets, List.map_filterMap, ← List.filterMap_eq_filter]
  congr
  funext n
  cases h : f req n <;> simp [Option.guard, h]

/-- targets are issued in configuration order -/
theorem targets_order (cfg : List NodeId) (pn : Option (Q → NodeId → Option Q)) (req : Q) :
    ((targets cfg pn req).map (·.1)).Sublist cfg := by
  cases pn with
  | none => simp [targets, List.map_map, Function.comp_def]
  | some f => rw [targets_keys]; exact List.filter_sublist

/-- each targeted node is targeted once (configurations list each node once) -/
theorem targets_nodup (cfg : List NodeId) (pn : Option (Q → NodeId → Option Q)) (req : Q) (h : cfg.Nodup) :
    ((targets cfg pn req).map (·.1)).Nodup :=
  (targets_order cfg pn req).nodup h

/-- **skipped nodes are neither waited for nor counted**: the number of replies the call expects
    (`expectedReplies`, decremented once per skipped node) is the number of targeted nodes -/
theorem expected_eq_targets (cfg : List NodeId) (pn : Option (Q → NodeId → Option Q)) (req : Q) :
    expectedOf cfg pn req = (targets cfg pn req).length := by
  cases pn with
  | none => simp [expectedOf, targets]
  | some f =>
    -- the counter starts at the length of what is still to be visited: it never underflows
    have key : ∀ (l : List NodeId) (e : Nat),
        l.foldl (fun e n => if (f req n).isSome then e else e - 1) (e + l.length) =
          e + l.countP fun n => (f req n).isSome := by
      intro l
      induction l with
      | nil => simp
      | cons a l ih =>
        intro e
        cases h : (f req a).isSome
        · simpa [List.countP_cons, h] using ih e
        · simpa [List.countP_cons, h, Nat.add_assoc, Nat.add_comm 1] using ih (e + 1)
    rw [← List.length_map (f := (·.1)), targets_keys, ← List.countP_eq_length_filter]
    simpa [expectedOf] using key cfg 0

/-- the multicast wait loop returns exactly when every sent message has been confirmed … -/
theorem mcast_waits_for_confirmations (sent k : Nat) : mcastReturns false sent k = true ↔ sent ≤ k := by
  simp [mcastReturns, mcastRemaining]; omega

/-- … and with the no-send-waiting option it returns without waiting for any confirmation -/
theorem mcast_nosendwaiting (sent k : Nat) : mcastReturns true sent k = true := by
  simp [mcastReturns]

end GorumsV.C06
