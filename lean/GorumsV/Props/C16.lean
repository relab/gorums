import GorumsV.Model.Gen
import GorumsV.Lemmas.Basic
/-!
  C16 — the generator is total, deterministic and never silently emits broken code
  (decision-logic half: theorems over the model `Gen` of `validateOptions`, the `chkFn`s and
  the templates' choices; the tie proves that the model equals what the real plugin does on
  the whole lattice of 1 024 option combinations, regenerated on every run).
-/
namespace GorumsV.C16
open GorumsV.Gen

theorem validate_eq_none_iff (o : Opts) : validate o = none ↔
    nCallTypes o ≤ 1 ∧ (o.perNode → hasCallType o) ∧ (o.async → o.quorumcall) ∧
    (o.clientStream → o.multicast) ∧ (o.serverStream → o.correctable) ∧ ¬(o.correctable ∧ o.clientStream) := by
  -- the chain read off: none of its six conditions holds …
  simp only [validate, ite_eq_iff, reduceCtorEq, and_false, false_or, and_true]
  -- … and each negated condition written as an implication
  simp only [gt_iff_lt, Nat.not_lt, Bool.and_eq_true, Bool.not_eq_true', ← Bool.not_eq_true, not_and,
    Decidable.not_imp_not, Decidable.not_not]

/-- five summands 0 or 1 with sum at most 1, and `a` only with `q`: six patterns are left
    (the one fact of this file that is a finite check, over 64 cases) -/
theorem flag_patterns : ∀ r u m q c a : Bool, b2n r + b2n u + b2n m + b2n q + b2n c ≤ 1 → (a = true → q = true) →
    (u, m, q, c, a) ∈
      [(false, false, false, false, false), (true, false, false, false, false), (false, true, false, false, false),
       (false, false, true, false, false), (false, false, true, false, true), (false, false, false, true, false)] := by
  decide

/-- **the six kinds of method**: with at most one call type, and `async` only on a quorum call, the
    options name exactly one of the six client templates, and that template alone fires -/
theorem call_kind (o : Opts) (hn : nCallTypes o ≤ 1) (ha : o.async → o.quorumcall) :
    (o.unicast = false ∧ o.multicast = false ∧ o.quorumcall = false ∧ o.correctable = false ∧ o.async = false ∧
      stubs o = ["Node.RPCCall"]) ∨
    (o.unicast = true ∧ o.multicast = false ∧ o.quorumcall = false ∧ o.correctable = false ∧ o.async = false ∧
      stubs o = ["Node.Unicast"]) ∨
    (o.unicast = false ∧ o.multicast = true ∧ o.quorumcall = false ∧ o.correctable = false ∧ o.async = false ∧
      stubs o = ["Configuration.Multicast"]) ∨
    (o.unicast = false ∧ o.multicast = false ∧ o.quorumcall = true ∧ o.correctable = false ∧ o.async = false ∧
      stubs o = ["Configuration.QuorumCall"]) ∨
    (o.unicast = false ∧ o.multicast = false ∧ o.quorumcall = true ∧ o.correctable = false ∧ o.async = true ∧
      stubs o = ["Configuration.AsyncCall"]) ∨
    (o.unicast = false ∧ o.multicast = false ∧ o.quorumcall = false ∧ o.correctable = true ∧ o.async = false ∧
      stubs o = ["Configuration.CorrectableCall"]) := by
  have := flag_patterns _ _ _ _ _ _ hn ha
  simp only [List.mem_cons, Prod.mk.injEq, List.not_mem_nil, or_false] at this
  rcases this with k | k | k | k | k | k <;> simp [stubs, hasCallType, k]

/-- **exactly one client stub per accepted method** (never two methods with one name, never none) -/
theorem accepted_one_stub (o : Opts) (h : validate o = none) : (stubs o).length = 1 := by
  obtain ⟨hn, -, ha, -⟩ := (validate_eq_none_iff o).1 h
  rcases call_kind o hn ha with k | k | k | k | k | k <;> simp [k]

/-- the combinations the documentation allows: at most one call type; per-node arguments with
    multicast / quorum call / correctable (ignored on unicast); custom return type and async as in
    doc/method-options.md; client streams with multicast, server streams with correctable -/
def Documented (o : Opts) : Bool :=
  decide (nCallTypes o ≤ 1) && (!o.perNode || o.multicast || o.quorumcall || o.correctable || o.unicast) &&
  (!o.async || o.quorumcall) && (!o.clientStream || o.multicast) && (!o.serverStream || o.correctable)

theorem documented_iff (o : Opts) : Documented o = true ↔
    nCallTypes o ≤ 1 ∧ (o.perNode → o.multicast ∨ o.quorumcall ∨ o.correctable ∨ o.unicast) ∧ (o.async → o.quorumcall) ∧
    (o.clientStream → o.multicast) ∧ (o.serverStream → o.correctable) := by
  simp [Documented, and_assoc, or_assoc, Decidable.imp_iff_not_or]

/-- **accepted = documented**.  The two lists of conditions differ in two places: `validate` counts `async` as a
    call type for `per_node_arg`, which adds nothing since `async` needs `quorumcall`; and its last case
    (correctable with a client stream) is implied, since a client stream needs multicast, which excludes correctable. -/
theorem accepted_iff_documented (o : Opts) : validate o = none ↔ Documented o = true := by
  rw [validate_eq_none_iff, documented_iff]
  constructor
  · intro ⟨hn, hp, ha, hc, hs, _⟩
    refine ⟨hn, fun p => ?_, ha, hc, hs⟩
    have t := hp p
    rcases call_kind o hn ha with k | k | k | k | k | k <;> simp [hasCallType, k] at t ⊢
  · intro ⟨hn, hp, ha, hc, hs⟩
    refine ⟨hn, fun p => ?_, ha, hc, hs, fun ⟨c, s⟩ => ?_⟩
    · rcases hp p with h | h | h | h <;> simp [hasCallType, h]
    · have m := hc s
      rcases call_kind o hn ha with k | k | k | k | k | k <;> simp [k] at c m

/-- **every documented combination is accepted** -/
theorem accepts_documented (o : Opts) (h : Documented o = true) : validate o = none :=
  (accepted_iff_documented o).2 h

/-- … and nothing else is: an accepted combination is a documented one -/
theorem accepted_is_documented (o : Opts) (h : validate o = none) : Documented o = true :=
  (accepted_iff_documented o).1 h

/-- **the documented illegal combinations are rejected with a diagnostic** -/
theorem rejects_illegal (o : Opts) :
    (o.async = true → o.quorumcall = false → (validate o).isSome = true) ∧
    (o.clientStream = true → o.multicast = false → (validate o).isSome = true) ∧
    (o.serverStream = true → o.correctable = false → (validate o).isSome = true) ∧
    (o.correctable = true → o.clientStream = true → (validate o).isSome = true) ∧
    (nCallTypes o > 1 → (validate o).isSome = true) ∧
    (o.perNode = true → hasCallType o = false → (validate o).isSome = true) := by
  -- each is the contrapositive of one conjunct of `validate_eq_none_iff`
  simp only [Option.isSome_iff_ne_none, ne_eq, validate_eq_none_iff]
  exact ⟨fun a q ⟨_, _, ha, _⟩ => by simp [ha a] at q,
    fun s m ⟨_, _, _, hc, _⟩ => by simp [hc s] at m,
    fun s c ⟨_, _, _, _, hs, _⟩ => by simp [hs s] at c,
    fun c s ⟨_, _, _, _, _, hx⟩ => hx ⟨c, s⟩,
    fun n ⟨hn, _⟩ => Nat.not_le_of_gt n hn,
    fun p t ⟨_, hp, _⟩ => by simp [hp p] at t⟩

/-- the accepted stub is the one of the declared call type, with the declared options -/
theorem stub_is_declared (o : Opts) (h : validate o = none) :
    (o.quorumcall = true → o.async = false → stubs o = ["Configuration.QuorumCall"]) ∧
    (o.quorumcall = true → o.async = true → stubs o = ["Configuration.AsyncCall"]) ∧
    (o.correctable = true → stubs o = ["Configuration.CorrectableCall"]) ∧
    (o.multicast = true → stubs o = ["Configuration.Multicast"]) ∧
    (o.unicast = true → stubs o = ["Node.Unicast"]) ∧
    (hasCallType o = false → stubs o = ["Node.RPCCall"]) := by
  obtain ⟨hn, -, ha, -⟩ := (validate_eq_none_iff o).1 h
  rcases call_kind o hn ha with k | k | k | k | k | k <;> simp [hasCallType, k]

/-- a quorum function is declared exactly for the call types that use one, and per-node arguments are
    passed on exactly where they are declared and supported -/
theorem qf_and_pernode (o : Opts) (h : validate o = none) :
    (hasQF o = true ↔ (stubs o = ["Configuration.QuorumCall"] ∨ stubs o = ["Configuration.AsyncCall"] ∨ stubs o = ["Configuration.CorrectableCall"])) ∧
    (perNodeSet o = true ↔ (o.perNode = true ∧ o.unicast = false)) := by
  obtain ⟨hn, hp, ha, -⟩ := (validate_eq_none_iff o).1 h
  rcases call_kind o hn ha with k | k | k | k | k | k <;> simp_all [hasQF, perNodeSet, hasCallType]

/-- **services**: the client stubs of a service whose (accepted) methods have distinct names have
    distinct (receiver, name) keys — no declaration is emitted twice -/
def stubKeys (ms : List (String × Opts)) : List (String × String) :=
  ms.flatMap (fun m => (stubs m.2).map (fun s => (m.1, s)))

theorem stubKeys_names (ms : List (String × Opts)) (hv : ∀ m ∈ ms, validate m.2 = none) :
    (stubKeys ms).map (·.1) = ms.map (·.1) := by
  induction ms with
  | nil => rfl
  | cons m ms ih =>
    obtain ⟨s, hs⟩ := List.length_eq_one_iff.1 (accepted_one_stub m.2 (hv m (by simp)))
    have ih := ih fun x hx => hv x (by simp [hx])
    simp only [stubKeys] at ih
    simp [stubKeys, hs, ih]

theorem service_stub_keys_nodup (ms : List (String × Opts)) (hn : (ms.map (·.1)).Nodup)
    (hv : ∀ m ∈ ms, validate m.2 = none) : ((stubKeys ms).map (·.1)).Nodup := by
  rw [stubKeys_names ms hv]; exact hn

/-! non-vacuity -/
example : validate ⟨false, false, false, true, false, true, true, true, false, false⟩ = none := rfl
example : stubs ⟨false, false, false, true, false, true, true, true, false, false⟩ = ["Configuration.AsyncCall"] := rfl
example : validate ⟨false, false, true, true, false, false, false, false, false, false⟩ = some "call-types-combined" := rfl

end GorumsV.C16
