import GorumsV.Model.Race
/-!
  C15 — the public API is free of data races under concurrent use (partial: which accesses the
  program makes and which locks it holds is extracted syntactically by `gx`; the Go memory model
  below lock discipline — atomics, channels, `go` — is covered by the race detector runs).
-/
namespace GorumsV.C15
open GorumsV.Race

/-- `xCount` and `rCount` are this count, of `acq`/`rel` and of `racq`/`rrel` -/
def opCount (t : Tid) (up down : Op) : Trace → Int
  | [] => 0
  | e :: es => opCount t up down es + (if e.tid = t ∧ e.op = up then 1 else if e.tid = t ∧ e.op = down then -1 else 0)

theorem xCount_eq (t : Tid) (l : Lock) : xCount t l = opCount t (.acq l) (.rel l) := by
  funext tr; induction tr <;> simp [xCount, opCount, *]

theorem rCount_eq (t : Tid) (l : Lock) : rCount t l = opCount t (.racq l) (.rrel l) := by
  funext tr; induction tr <;> simp [rCount, opCount, *]

abbrev held (tr : Trace) (t : Tid) (up down : Op) (p : Nat) : Int := opCount t up down (tr.take p).reverse

theorem held_succ (tr : Trace) (t : Tid) (up down : Op) (m : Nat) :
    (held tr t up down (m+1) = held tr t up down m + 1 ∧ ∃ e, tr[m]? = some e ∧ e.tid = t ∧ e.op = up) ∨
    (held tr t up down (m+1) = held tr t up down m - 1 ∧ ∃ e, tr[m]? = some e ∧ e.tid = t ∧ e.op = down) ∨
    held tr t up down (m+1) = held tr t up down m := by
  cases h : tr[m]? with
  | none =>
    rw [held, List.take_add_one, h, Option.toList_none, List.append_nil]
    exact .inr (.inr rfl)
  | some e =>
    rw [held, List.take_add_one, h, Option.toList_some, List.reverse_append, List.reverse_singleton,
      List.singleton_append, opCount]
    split
    · exact .inl ⟨rfl, e, rfl, ‹_›⟩
    · split
      · exact .inr (.inl ⟨rfl, e, rfl, ‹_›⟩)
      · exact .inr (.inr (Int.add_zero _))

theorem held_up {tr : Trace} {t : Tid} {up down : Op} {m : Nat}
    (h0 : held tr t up down m ≤ 0) (h1 : 0 < held tr t up down (m+1)) :
    ∃ e, tr[m]? = some e ∧ e.tid = t ∧ e.op = up := by
  rcases held_succ tr t up down m with ⟨_, h⟩ | ⟨_, _⟩ | _
  · exact h
  · omega
  · omega

theorem held_down {tr : Trace} {t : Tid} {up down : Op} {m : Nat}
    (h0 : 0 < held tr t up down m) (h1 : held tr t up down (m+1) ≤ 0) :
    ∃ e, tr[m]? = some e ∧ e.tid = t ∧ e.op = down := by
  rcases held_succ tr t up down m with ⟨_, _⟩ | ⟨_, h⟩ | _
  · omega
  · exact h
  · omega

/-- discrete intermediate value: a count positive at `a` and non-positive at `b ≥ a` has a step
    `m → m+1` in between at which it stops being positive -/
theorem step_down (f : Nat → Int) (a b : Nat) (hab : a ≤ b) (ha : 0 < f a) (hb : f b ≤ 0) :
    ∃ m, a ≤ m ∧ m < b ∧ 0 < f m ∧ f (m+1) ≤ 0 := by
  induction hab with
  | refl => omega
  | @step n han ih =>
    by_cases hn : 0 < f n
    · exact ⟨n, han, Nat.lt_succ_self n, hn, hb⟩
    · obtain ⟨m, h1, h2, h3⟩ := ih (by omega)
      exact ⟨m, h1, by omega, h3⟩

theorem step_up (f : Nat → Int) (a b : Nat) (hab : a ≤ b) (ha : f a ≤ 0) (hb : 0 < f b) :
    ∃ m, a ≤ m ∧ m < b ∧ f m ≤ 0 ∧ 0 < f (m+1) := by
  obtain ⟨m, h1, h2, h3, h4⟩ := step_down (fun n => 1 - f n) a b hab (by omega) (by omega)
  exact ⟨m, h1, h2, by omega, by omega⟩

/-- the three-edge chain access → release → acquisition → access -/
theorem chain (tr : Trace) (i m k j : Nat) (a r q b : Ev)
    (hi : tr[i]? = some a) (hm : tr[m]? = some r) (hk : tr[k]? = some q) (hj : tr[j]? = some b)
    (him : i < m) (hmk : m < k) (hkj : k < j) (har : a.tid = r.tid) (hqb : q.tid = b.tid)
    (hrq : ∃ l, (r.op = .rel l ∧ (q.op = .acq l ∨ q.op = .racq l)) ∨ (r.op = .rrel l ∧ q.op = .acq l)) :
    hb tr i j :=
  hb.trans (hb.edge ⟨him, a, r, hi, hm, Or.inl har⟩)
    (hb.trans (hb.edge ⟨hmk, r, q, hm, hk, Or.inr hrq⟩) (hb.edge ⟨hkj, q, b, hk, hj, Or.inl hqb⟩))

/-- Thread A holds a lock at its access `i` (count of `upA`/`downA`), thread B holds it at its later
    access `j` (count of `upB`/`downB`), never both at once, and `downA` synchronises with `upB`:
    then A's release after `i` and B's next acquisition order the two accesses. -/
theorem ordered_of_exclusive (tr : Trace) (l : Lock) (i j : Nat) (a b : Ev) (hij : i < j)
    (hi : tr[i]? = some a) (hj : tr[j]? = some b) (hne : a.tid ≠ b.tid) (upA downA upB downB : Op)
    (hsync : (downA = .rel l ∧ (upB = .acq l ∨ upB = .racq l)) ∨ (downA = .rrel l ∧ upB = .acq l))
    (hnotrel : a.op ≠ downA)
    (hexcl : ∀ p, p ≤ j → held tr a.tid upA downA p ≤ 0 ∨ held tr b.tid upB downB p ≤ 0)
    (hA : 0 < held tr a.tid upA downA i) (hB : 0 < held tr b.tid upB downB j) : hb tr i j := by
  -- A stops holding at some `m` in `[i, j)`, by a `downA` …
  obtain ⟨m, him, hmj, hm0, hm1⟩ := step_down _ i j (by omega) hA (by have := hexcl j (Nat.le_refl j); omega)
  obtain ⟨r, hr, hrt, hro⟩ := held_down hm0 hm1
  -- … where B does not hold; B starts holding at some `k` in `[m, j)`, by an `upB`
  obtain ⟨k, hmk, hkj, hk0, hk1⟩ := step_up _ m j (by omega) (by have := hexcl m (by omega); omega) hB
  obtain ⟨q, hq, hqt, hqo⟩ := held_up hk0 hk1
  have hmi : m ≠ i := fun h => by subst h; rw [hi] at hr; cases hr; exact hnotrel hro
  have hmk' : m ≠ k := fun h => by subst h; rw [hq] at hr; cases hr; exact hne (hrt.symm.trans hqt)
  exact chain tr i m k j a r q b hi hr hq hj (by omega) (by omega) hkj hrt.symm hqt
    ⟨l, by rw [hro, hqo]; exact hsync⟩

/-- `WellLocked.exclusive` in terms of the counts -/
theorem not_both {tr : Trace} (hw : WellLocked tr) {p : Nat} (hp : p ≤ tr.length) {t1 t2 : Tid} (hne : t1 ≠ t2)
    (l : Lock) : held tr t1 (.acq l) (.rel l) p ≤ 0 ∨
      held tr t2 (.acq l) (.rel l) p ≤ 0 ∧ held tr t2 (.racq l) (.rrel l) p ≤ 0 := by
  have := hw.exclusive p t1 t2 l hp hne
  simp only [holdsX, holdsR, xCount_eq, rCount_eq] at this
  unfold held
  omega

/-- Two events of different threads, neither of them an unlock, both made while holding `l`, at least
    one of them exclusively, are ordered by happens-before (only the exclusion up to `j` is used). -/
theorem hb_of_common_lock (tr : Trace) (l : Lock) (hw : WellLocked tr) (i j : Nat) (hij : i < j) (a b : Ev)
    (hi : tr[i]? = some a) (hj : tr[j]? = some b) (hne : a.tid ≠ b.tid)
    (hnr : a.op ≠ .rel l ∧ a.op ≠ .rrel l)
    (hA : holdsX tr i a.tid l ∨ holdsR tr i a.tid l) (hB : holdsX tr j b.tid l ∨ holdsR tr j b.tid l)
    (hX : holdsX tr i a.tid l ∨ holdsX tr j b.tid l) : hb tr i j := by
  have hjlen : j < tr.length := (List.getElem?_eq_some_iff.1 hj).1
  have ex := fun p (hp : p ≤ j) => @not_both tr hw p (by omega)
  have go := ordered_of_exclusive tr l i j a b hij hi hj hne
  simp only [holdsX, holdsR, xCount_eq, rCount_eq] at hA hB hX
  -- the earlier event holds `l` exclusively
  have caseA : 0 < held tr a.tid (.acq l) (.rel l) i → hb tr i j := fun hA =>
    hB.elim (go _ _ _ _ (.inl ⟨rfl, .inl rfl⟩) hnr.1 (fun p hp => by have := ex p hp hne l; omega) hA)
      (go _ _ _ _ (.inl ⟨rfl, .inr rfl⟩) hnr.1 (fun p hp => by have := ex p hp hne l; omega) hA)
  refine hA.elim caseA fun hA => hX.elim caseA fun hX => ?_
  exact go _ _ _ _ (.inr ⟨rfl, rfl⟩) hnr.2 (fun p hp => by have := ex p hp hne.symm l; omega) hA hX

/-- **the lock discipline is sound**: in a trace that respects the locks' semantics, if x is guarded by l
    then any two conflicting accesses to x are ordered by happens-before — there is no data race on x -/
theorem guarded_race_free (tr : Trace) (x : Var) (l : Lock) (hw : WellLocked tr) (hg : GuardedBy tr x l)
    (i j : Nat) (hij : i < j) (hc : Conflict tr x i j) : hb tr i j := by
  obtain ⟨a, b, hi, hj, hne, haa, hab, hwr⟩ := hc
  have hga := hg i a hi
  have hgb := hg j b hj
  exact hb_of_common_lock tr l hw i j hij a b hi hj hne
    (haa.elim (fun h => by simp [h]) (fun h => by simp [h]))
    (haa.elim hga.2 fun h => .inl (hga.1 h)) (hab.elim hgb.2 fun h => .inl (hgb.1 h))
    (hwr.elim (fun h => .inl (hga.1 h)) fun h => .inr (hgb.1 h))

/-- non-vacuity: two threads writing x under the same mutex -/
def exTrace : Trace :=
  [⟨1, .acq 0⟩, ⟨1, .write 7⟩, ⟨1, .rel 0⟩, ⟨2, .acq 0⟩, ⟨2, .write 7⟩, ⟨2, .rel 0⟩]

example : Conflict exTrace 7 1 4 :=
  ⟨⟨1, .write 7⟩, ⟨2, .write 7⟩, rfl, rfl, by decide, Or.inr rfl, Or.inr rfl, Or.inl rfl⟩

example : hb exTrace 1 4 :=
  chain exTrace 1 2 3 4 ⟨1, .write 7⟩ ⟨1, .rel 0⟩ ⟨2, .acq 0⟩ ⟨2, .write 7⟩ rfl rfl rfl rfl
    (by decide) (by decide) (by decide) rfl rfl ⟨0, Or.inl ⟨rfl, Or.inl rfl⟩⟩

/-- every happens-before path starts with an edge -/
theorem hb_first_edge {tr : Trace} {i j : Nat} (h : hb tr i j) : ∃ k, hbEdge tr i k := by
  induction h with
  | edge e => exact ⟨_, e⟩
  | trans _ _ ih _ => exact ih

/-- the discipline is necessary for the argument: without the lock the same two writes are a race
    (no happens-before path): here simply two unguarded writes by different threads -/
def racyTrace : Trace := [⟨1, .write 7⟩, ⟨2, .write 7⟩]
theorem racy_not_ordered : ¬ hb racyTrace 0 1 := by
  intro h
  obtain ⟨k, hk, a, b, ha, hb', hor⟩ := hb_first_edge h
  obtain rfl : k = 1 := Nat.le_antisymm (Nat.le_of_lt_succ (List.getElem?_eq_some_iff.1 hb').1) hk
  -- the only candidate edge joins two writes, of different threads
  cases ha
  cases hb'
  rcases hor with h | ⟨l, ⟨h, _⟩ | ⟨h, _⟩⟩ <;> cases h

end GorumsV.C15
