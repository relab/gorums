/-
  GoE — the small expression language into which the extractor `gx`
  (/verif/tools/gx) translates the *decision expressions* it finds in the Go
  source on every run (tier T1 of DESIGN.md).

  Everything that is not an operator becomes an atom named by its canonical
  source text (`len(errs)`, `state.expectedReplies`, `c.streamBroken.get()` …);
  an environment maps atoms to values.  `ev` follows Go: `&&`/`||` are
  short-circuiting, comparison needs equal dynamic kinds, arithmetic is on
  unbounded integers (overflow of `int` is out of scope: the quantities are
  lengths of in-memory slices).
-/
namespace GorumsV.GoE

inductive V where
  | int (n : Int)
  | bool (b : Bool)
  | ref (id : Nat)        -- an opaque comparable value (error value, pointer …)
  | nil
  | bad                   -- type error: the translated expression is not in the fragment
  deriving Repr, DecidableEq, Inhabited

inductive E where
  | atom (name : String)
  | int (n : Int)
  | bool (b : Bool)
  | nil
  | not (a : E)
  | and (a b : E)
  | or (a b : E)
  | eq (a b : E)
  | ne (a b : E)
  | lt (a b : E)
  | le (a b : E)
  | gt (a b : E)
  | ge (a b : E)
  | add (a b : E)
  | sub (a b : E)
  | ite (c a b : E)       -- normalised `if c { return a }; return b`
  | missing (why : String) -- the extractor did not find the decision point
  deriving Repr, DecidableEq, Inhabited

abbrev Env := String → V

def veq : V → V → V
  | .int a, .int b => .bool (a == b)
  | .bool a, .bool b => .bool (a == b)
  | .ref a, .ref b => .bool (a == b)
  | .nil, .nil => .bool true
  | .nil, .ref _ => .bool false
  | .ref _, .nil => .bool false
  | _, _ => .bad

def vnot : V → V
  | .bool b => .bool (!b)
  | _ => .bad

def vcmp (f : Int → Int → Bool) : V → V → V
  | .int a, .int b => .bool (f a b)
  | _, _ => .bad

def varith (f : Int → Int → Int) : V → V → V
  | .int a, .int b => .int (f a b)
  | _, _ => .bad

/-- `&&`: the right operand is not looked at when the left one is false (short circuit) -/
def vand : V → V → V
  | .bool false, _ => .bool false
  | .bool true, .bool x => .bool x
  | _, _ => .bad

/-- `||` -/
def vor : V → V → V
  | .bool true, _ => .bool true
  | .bool false, .bool x => .bool x
  | _, _ => .bad

/-- a tie file reads a generated test `e` as the Boolean `ev env e == .bool true` -/
@[simp] theorem V.bool_beq (a b : Bool) : (V.bool a == V.bool b) = (a == b) := by cases a <;> cases b <;> rfl

@[simp] theorem vand_bool (a b : Bool) : vand (.bool a) (.bool b) = .bool (a && b) := by cases a <;> rfl
@[simp] theorem vor_bool (a b : Bool) : vor (.bool a) (.bool b) = .bool (a || b) := by cases a <;> rfl
@[simp] theorem vand_false (v : V) : vand (.bool false) v = .bool false := rfl
@[simp] theorem vor_true (v : V) : vor (.bool true) v = .bool true := rfl

def ev (env : Env) : E → V
  | .atom n => env n
  | .int n => .int n
  | .bool b => .bool b
  | .nil => .nil
  | .not a => vnot (ev env a)
  | .and a b => vand (ev env a) (ev env b)
  | .or a b => vor (ev env a) (ev env b)
  | .eq a b => veq (ev env a) (ev env b)
  | .ne a b => vnot (veq (ev env a) (ev env b))
  | .lt a b => vcmp (fun x y => decide (x < y)) (ev env a) (ev env b)
  | .le a b => vcmp (fun x y => decide (x ≤ y)) (ev env a) (ev env b)
  | .gt a b => vcmp (fun x y => decide (x > y)) (ev env a) (ev env b)
  | .ge a b => vcmp (fun x y => decide (x ≥ y)) (ev env a) (ev env b)
  | .add a b => varith (· + ·) (ev env a) (ev env b)
  | .sub a b => varith (· - ·) (ev env a) (ev env b)
  | .ite c a b => match ev env c with
      | .bool true => ev env a
      | .bool false => ev env b
      | _ => .bad
  | .missing _ => .bad

-- here, so that `ev`'s equation lemmas are made once and not again in every tie file that evaluates a generated term
attribute [simp] ev veq vnot vcmp varith

/-- Boolean reading of a value; a value outside the fragment reads as `none`. -/
def V.toBool? : V → Option Bool
  | .bool b => some b
  | _ => none

def V.toInt? : V → Option Int
  | .int n => some n
  | _ => none

/-- environment from an association list; unknown atoms are `bad` -/
def envOf (l : List (String × V)) : Env := fun n =>
  match l.find? (fun p => p.1 == n) with
  | some p => p.2
  | none => .bad

@[simp] theorem envOf_nil (n : String) : envOf [] n = .bad := rfl
@[simp] theorem envOf_cons (k : String) (v : V) (l : List (String × V)) (n : String) :
    envOf ((k, v) :: l) n = if k = n then v else envOf l n := by
  by_cases h : k = n <;> simp [envOf, h]

end GorumsV.GoE
