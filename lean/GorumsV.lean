import GorumsV.Model.Chan
import GorumsV.Model.Codec
import GorumsV.Model.Config
import GorumsV.Model.ConnMgr
import GorumsV.Model.Correctable
import GorumsV.Model.Gen
import GorumsV.Model.GoE
import GorumsV.Model.Race
import GorumsV.Model.ReplyLoop
import GorumsV.Model.Skeletons
import GorumsV.Model.Sort
import GorumsV.Model.SrvConn
import GorumsV.Model.Net
import GorumsV.Model.NodeConn
import GorumsV.Model.LockOrder
import GorumsV.Model.Backoff
import GorumsV.Model.MgrClose
import GorumsV.Model.WatchConc
import GorumsV.Lemmas.Lts
import GorumsV.Lemmas.Basic
import GorumsV.Lemmas.GoETac
import GorumsV.Lemmas.ReplyLoop
import GorumsV.Lemmas.Correctable
import GorumsV.Props.NetInv
import GorumsV.Props.C01
import GorumsV.Props.C02
import GorumsV.Props.C03
import GorumsV.Props.C04
import GorumsV.Props.C05
import GorumsV.Props.C06
import GorumsV.Props.C07
import GorumsV.Props.C08
import GorumsV.Props.C09
import GorumsV.Props.C10
import GorumsV.Props.C11
import GorumsV.Props.C12
import GorumsV.Props.C13
import GorumsV.Props.C14
import GorumsV.Props.C15
import GorumsV.Props.C16
import GorumsV.Props.C17
import GorumsV.Props.C18
import GorumsV.Props.C19
import GorumsV.Props.Net
import GorumsV.Props.NetCall
import GorumsV.Props.NodeConnP
import GorumsV.Props.BackoffP
import GorumsV.Props.MgrCloseP
import GorumsV.Props.WatchConcP
import GorumsV.Props.SitesP
import GorumsV.Props.LockOrderP
import GorumsV.Props.NetFail
